import DepLogic.Model.Order
import DepLogic.Model.Range
import DepLogic.Model.Spec
import DepLogic.Model.Version
import DepLogic.Model.SpecText
import DepLogic.Model.Pep440
import DepLogic.Model.SpecParse
import DepLogic.Model.Generic
import DepLogic.Model.Marker
import DepLogic.Model.Quote
import DepLogic.Model.MarkerText
import DepLogic.Model.Tags
import DepLogic.Model.Codec
import DepLogic.Model.MarkerCodec
import DepLogic.Proofs.Ends
import DepLogic.Proofs.RangeLemmas
import DepLogic.Proofs.SpecLemmas
import DepLogic.Proofs.InvertLemmas
import DepLogic.Proofs.SpecTheorems
import DepLogic.Proofs.CutMap
import DepLogic.Proofs.CanonUnique
import DepLogic.Proofs.CutAlgebra
import DepLogic.Proofs.VersionOrder
import DepLogic.Proofs.FromClause
import DepLogic.Proofs.RenderLemmas
import DepLogic.Proofs.PyNorm
import DepLogic.Proofs.LexLemmas
import DepLogic.Proofs.TextInv
import DepLogic.Proofs.MarkerDual
import DepLogic.Proofs.MarkerSem
import DepLogic.Proofs.MarkerEngine
import DepLogic.Proofs.MarkerEngineStep
import DepLogic.Proofs.BuildLoop
import DepLogic.Proofs.MarkerSingles
import DepLogic.Proofs.FromSpec
import DepLogic.Proofs.LexNorm
import DepLogic.Properties.C01
import DepLogic.Properties.C05
import DepLogic.Properties.C14
import DepLogic.Properties.C13
import DepLogic.Properties.C19
import DepLogic.Properties.C04
import DepLogic.Properties.C04Contains
import DepLogic.Properties.C06
import DepLogic.Properties.C17
import DepLogic.Properties.C11
import DepLogic.Properties.C11Reversed
import DepLogic.Properties.C02
import DepLogic.Properties.C03
import DepLogic.Properties.C07Quote
import DepLogic.Properties.C07Atom
import DepLogic.Properties.C07Nested
import DepLogic.Properties.C07
import DepLogic.Properties.C07Full
import DepLogic.Properties.C12
import DepLogic.Properties.C12Flat
import DepLogic.Properties.C15
import DepLogic.Properties.C15Atomic
import DepLogic.Properties.C15Only
import DepLogic.Properties.C15NonEmpty
import DepLogic.Properties.C15Parse
import DepLogic.Properties.C10
import DepLogic.Properties.C08
import DepLogic.Properties.C08Compat
import DepLogic.Properties.C09
import DepLogic.Properties.C16
import DepLogic.Properties.C16Nested
import DepLogic.Properties.C16Widen
import DepLogic.Properties.C18
import DepLogic.Properties.C18Platform
