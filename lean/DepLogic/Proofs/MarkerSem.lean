import DepLogic.Proofs.MarkerDual
/-
  Basic facts about the total semantics `M.sem`: Python-equal markers mean the same; the meaning of a list of
  children (`agg`), which flattening, de-duplication and cartesian products preserve.
-/
namespace DepLogic
namespace M

theorem semAll_eq (env : Env) (ms : List M) : semAll env ms = ms.all (sem env) := by
  induction ms with
  | nil => rfl
  | cons m ms ih => simp [semAll, ih]

theorem semAny_eq (env : Env) (ms : List M) : semAny env ms = ms.any (sem env) := by
  induction ms with
  | nil => rfl
  | cons m ms ih => simp [semAny, ih]

/-! Python `==` on markers compares everything but the cached specifier of an atom, which `strip` erases:
    symmetry, reflexivity, transitivity and `sem`-congruence all follow from `beq_iff_strip`. -/

mutual
def strip : M → M
  | .expr a => .expr { a with spec := .ver .any }
  | .multi ms => .multi (stripL ms)
  | .union ms => .union (stripL ms)
  | m => m
def stripL : List M → List M
  | [] => []
  | m :: ms => strip m :: stripL ms
end

theorem Atom.beq_iff (a b : Atom) :
    a.beq b = true ↔ ({ a with spec := .ver .any } : Atom) = { b with spec := .ver .any } := by
  rcases a with ⟨n1, o1, v1, r1, s1⟩
  rcases b with ⟨n2, o2, v2, r2, s2⟩
  simp [Atom.beq, and_assoc]

theorem Atom.beq_eval (env : Env) (a b : Atom) (h : a.beq b = true) : a.eval env = b.eval env :=
  (congrArg (Atom.eval env) ((Atom.beq_iff a b).1 h) :)

mutual
theorem beq_iff_strip : ∀ (x y : M), beq x y = true ↔ strip x = strip y
  | .any, y | .empty, y => by cases y <;> simp [beq, strip]
  | .expr a, y => by cases y <;> simp [beq, strip, Atom.beq_iff]
  | .eqU n a, y | .neM n a, y => by cases y <;> simp [beq, setEq, strip]
  | .multi a, y | .union a, y => by cases y <;> simp [beq, strip, beqList_iff_strip a]
theorem beqList_iff_strip : ∀ (xs ys : List M), beqList xs ys = true ↔ stripL xs = stripL ys
  | [], ys => by cases ys <;> simp [beqList, stripL]
  | x :: xs, ys => by cases ys <;> simp [beqList, stripL, beq_iff_strip x, beqList_iff_strip xs]
end

mutual
theorem sem_strip (env : Env) : ∀ (x : M), sem env (strip x) = sem env x
  | .any | .empty | .eqU _ _ | .neM _ _ | .expr _ => rfl
  | .multi ms => (semL_strip env ms).1
  | .union ms => (semL_strip env ms).2
theorem semL_strip (env : Env) : ∀ (xs : List M),
    semAll env (stripL xs) = semAll env xs ∧ semAny env (stripL xs) = semAny env xs
  | [] => ⟨rfl, rfl⟩
  | x :: xs => by simp only [stripL, semAll, semAny, sem_strip env x, semL_strip env xs, and_self]
end

theorem beq_sem (env : Env) (x y : M) (h : beq x y = true) : sem env x = sem env y := by
  rw [← sem_strip env x, (beq_iff_strip x y).1 h, sem_strip]

theorem beqList_sem (env : Env) : ∀ (xs ys : List M), beqList xs ys = true →
    semAll env xs = semAll env ys ∧ semAny env xs = semAny env ys := by
  intro xs ys h
  rw [← (semL_strip env xs).1, ← (semL_strip env xs).2, (beqList_iff_strip xs ys).1 h]
  exact semL_strip env ys

theorem beq_symm (x y : M) : beq x y = beq y x := by
  rw [Bool.eq_iff_iff, beq_iff_strip, beq_iff_strip]; exact eq_comm

theorem beqList_symm : ∀ (xs ys : List M), beqList xs ys = beqList ys xs := by
  intro xs ys
  rw [Bool.eq_iff_iff, beqList_iff_strip, beqList_iff_strip]; exact eq_comm

theorem beq_refl (x : M) : beq x x = true := (beq_iff_strip x x).2 rfl

theorem beqList_refl (xs : List M) : beqList xs xs = true := (beqList_iff_strip xs xs).2 rfl

theorem beq_trans (x y z : M) (h1 : beq x y = true) (h2 : beq y z = true) : beq x z = true :=
  (beq_iff_strip x z).2 (((beq_iff_strip x y).1 h1).trans ((beq_iff_strip y z).1 h2))

def agg (env : Env) (isAnd : Bool) (l : List M) : Bool :=
  if isAnd then l.all (sem env) else l.any (sem env)

def bop (isAnd : Bool) (x y : Bool) : Bool := if isAnd then x && y else x || y

/-- `agg` for any element type (`agg env b` unfolds to `aggF b (sem env)`); `cnf` / `dnf` aggregate over lists of lists -/
def aggF {α : Type} (b : Bool) (f : α → Bool) (l : List α) : Bool := if b then l.all f else l.any f

theorem bop_assoc (b : Bool) (x y z : Bool) : bop b (bop b x y) z = bop b x (bop b y z) := by
  cases b <;> simp [bop, Bool.and_assoc, Bool.or_assoc]

theorem bop_comm (b : Bool) (x y : Bool) : bop b x y = bop b y x := by
  cases b <;> simp [bop, Bool.and_comm, Bool.or_comm]

theorem bop_idem (b : Bool) (x : Bool) : bop b x x = x := by cases b <;> simp [bop]

theorem bop_neutral_right (b : Bool) (x : Bool) : bop b x b = x := by cases b <;> cases x <;> rfl
theorem bop_neutral_left (b : Bool) (x : Bool) : bop b b x = x := by cases b <;> cases x <;> rfl
theorem bop_absorb_left (b : Bool) (x : Bool) : bop b (!b) x = !b := by cases b <;> cases x <;> rfl
theorem bop_absorb_right (b x : Bool) : bop b x (!b) = !b := by cases b <;> cases x <;> rfl
theorem bop_absorption (b x y : Bool) : bop b x (bop (!b) y x) = x := by cases b <;> cases x <;> cases y <;> rfl
theorem bop_distrib (b x y z : Bool) : bop b (bop (!b) x y) (bop (!b) x z) = bop (!b) x (bop b y z) := by
  cases b <;> cases x <;> cases y <;> cases z <;> rfl

section aggF
variable {α β : Type} (b : Bool) (f : α → Bool)

theorem aggF_nil : aggF b f [] = b := by cases b <;> rfl
theorem aggF_cons (x : α) (l : List α) : aggF b f (x :: l) = bop b (f x) (aggF b f l) := by cases b <;> rfl
theorem aggF_map (g : β → α) (l : List β) : aggF b f (l.map g) = aggF b (fun x => f (g x)) l := by
  cases b <;> simp [aggF, Function.comp_def]
theorem aggF_flatMap (g : β → List α) (l : List β) :
    aggF b f (l.flatMap g) = aggF b (fun x => aggF b f (g x)) l := by
  cases b <;> simp [aggF]
theorem aggF_congr (g : α → Bool) (l : List α) (h : ∀ x ∈ l, f x = g x) : aggF b f l = aggF b g l := by
  induction l with
  | nil => rfl
  | cons x xs ih =>
    rw [aggF_cons, aggF_cons, h x (List.mem_cons_self ..), ih fun y hy => h y (List.mem_cons_of_mem _ hy)]

theorem aggF_bop_left (a : Bool) (l : List α) :
    aggF b (fun x => bop (!b) a (f x)) l = bop (!b) a (aggF b f l) := by
  induction l with
  | nil => cases b <;> cases a <;> rfl
  | cons x xs ih => rw [aggF_cons, aggF_cons, ih]; cases b <;> cases a <;> cases f x <;> rfl

theorem aggF_bop_right (a : Bool) (l : List α) :
    aggF b (fun x => bop (!b) (f x) a) l = bop (!b) (aggF b f l) a := by
  simp only [bop_comm (!b) _ a]; exact aggF_bop_left b f a l

end aggF

/-- the distributive law behind `cnf` and `dnf` -/
theorem product_aggF (b : Bool) (f : M → Bool) (ls : List (List M)) :
    aggF b (aggF (!b) f) (product ls) = aggF (!b) (aggF b f) ls := by
  induction ls with
  | nil => cases b <;> rfl
  | cons l ls ih =>
    simp only [product, aggF_flatMap, aggF_map, aggF_cons (!b), aggF_bop_left, ih, aggF_bop_right]

variable (env : Env) (b : Bool)

theorem agg_nil : agg env b [] = b := aggF_nil b _
theorem agg_cons (x : M) (l : List M) : agg env b (x :: l) = bop b (sem env x) (agg env b l) :=
  aggF_cons b _ x l
theorem agg_one (x : M) : agg env b [x] = sem env x := by rw [agg_cons, agg_nil, bop_neutral_right]
theorem agg_append (l1 l2 : List M) : agg env b (l1 ++ l2) = bop b (agg env b l1) (agg env b l2) := by
  cases b <;> simp [agg, bop]

theorem agg_map_same (f : M → M) (l : List M) (h : ∀ x ∈ l, sem env (f x) = sem env x) :
    agg env b (l.map f) = agg env b l :=
  (aggF_map b (sem env) f l).trans (aggF_congr b _ _ l h)

theorem agg_filter (p : M → Bool) (l : List M) :
    agg env b l = bop b (agg env b (l.filter p)) (agg env b (l.filter fun x => !p x)) := by
  induction l with
  | nil => rw [List.filter_nil, List.filter_nil, agg_nil, bop_idem]
  | cons x xs ih =>
    rw [agg_cons, ih]
    cases hp : p x <;> simp only [List.filter, hp, Bool.not_true, Bool.not_false, agg_cons]
    · rw [← bop_assoc, bop_comm b (sem env x), bop_assoc]
    · rw [bop_assoc]

theorem sem_junction (ms : List M) : sem env (junction b ms) = agg env b ms := by
  cases b
  · exact semAny_eq env ms
  · exact semAll_eq env ms

theorem sem_neutral : sem env (neutral b) = b := by cases b <;> rfl
theorem sem_absorbing : sem env (absorbing b) = !b := by cases b <;> rfl
theorem sem_of_isAbs {m : M} (h : isAbs b m = true) : sem env m = !b := by rw [(isAbs_iff b m).1 h, sem_absorbing]

theorem childrenB_sem (m : M) : agg env b (childrenB b m) = sem env m := by
  by_cases h : isJunction b m = true
  · obtain ⟨ms, rfl⟩ := (isJunction_iff b m).1 h
    rw [childrenB_junction, sem_junction]
  · rw [childrenB_other b m (by simpa using h), agg_one]

theorem memB_sem (x : M) (l : List M) (h : memB x l = true) : ∃ y ∈ l, sem env y = sem env x := by
  obtain ⟨y, hy, hb⟩ := List.any_eq_true.1 h
  exact ⟨y, hy, (beq_sem env x y hb).symm⟩

theorem agg_mem (l : List M) (y : M) (hy : y ∈ l) :
    bop b (agg env b l) (sem env y) = agg env b l := by
  induction l with
  | nil => cases hy
  | cons z zs ih =>
    rw [agg_cons]
    rcases List.mem_cons.1 hy with rfl | hy
    · rw [bop_comm, ← bop_assoc, bop_idem]
    · rw [bop_assoc, ih hy]

theorem agg_absorb (l a : List M) (h : ∀ x ∈ a, memB x l = true) :
    bop b (agg env b l) (agg env b a) = agg env b l := by
  induction a with
  | nil => rw [agg_nil, bop_neutral_right]
  | cons x xs ih =>
    obtain ⟨y, hy, hs⟩ := memB_sem env x l (h x (List.mem_cons_self ..))
    rw [agg_cons, ← bop_assoc, ← hs, agg_mem env b l y hy, ih fun z hz => h z (List.mem_cons_of_mem _ hz)]

theorem addNew_agg (acc : List M) (x : M) :
    agg env b (addNew acc x) = bop b (agg env b acc) (sem env x) := by
  unfold addNew
  split
  · rename_i h
    obtain ⟨y, hy, hs⟩ := memB_sem env x acc h
    rw [← hs, agg_mem env b acc y hy]
  · rw [agg_append, agg_one]

theorem foldl_addNew_agg (xs acc : List M) :
    agg env b (xs.foldl addNew acc) = bop b (agg env b acc) (agg env b xs) := by
  induction xs generalizing acc with
  | nil => rw [List.foldl_nil, agg_nil, bop_neutral_right]
  | cons x xs ih => rw [List.foldl_cons, ih, addNew_agg, agg_cons, bop_assoc]

theorem flatten_agg : ∀ (n : Nat) (items : List M), agg env b (flattenInto b n items []) = agg env b items
  | 0, items => by rw [flattenInto_eq, foldl_addNew_agg, agg_nil, bop_neutral_left]; rfl
  | n + 1, items => by
    rw [flattenInto_eq, foldl_addNew_agg, agg_nil, bop_neutral_left]
    refine (aggF_flatMap b (sem env) _ items).trans (aggF_congr b _ (sem env) items fun x _ => ?_)
    exact ite_both (P := fun l => agg env b l = sem env x) ((flatten_agg n _).trans (childrenB_sem env b x))
      (agg_one env b x)

theorem agg_mono (f : M → M) (ms : List M)
    (h : ∀ c ∈ ms, sem env c = true → sem env (f c) = true) (hs : agg env b ms = true) :
    agg env b (ms.map f) = true := by
  cases b
  · obtain ⟨c, hc, h1⟩ := List.any_eq_true.1 hs
    exact List.any_eq_true.2 ⟨f c, List.mem_map_of_mem hc, h c hc h1⟩
  · exact List.all_eq_true.2 (List.forall_mem_map.2 fun c hc => h c hc (List.all_eq_true.1 hs c hc))

end M
end DepLogic
