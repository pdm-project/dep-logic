import DepLogic.Proofs.VersionOrder
/-
  What the rendering heuristics of `RangeSpecifier._simplified_form` / `UnionSpecifier._simplified_form`
  mean for the bounds (`compat_render`, `wild_render`).  At the end: which form is chosen when
  (`strClauses_forms`, `unionSimplified_forms`), so that proofs about rendered text distinguish the
  forms and not the tests that select them.
-/
namespace DepLogic
open LinPre VOrd

theorem padZeros_length (l : List Nat) (n : Nat) (h : l.length ≤ n) : (padZeros l n).length = n := by
  simp only [padZeros, List.length_append, List.length_replicate]; omega

theorem fdi_prefix (x y : List Nat) (hl : x.length = y.length) : ∀ i, i < firstDifferentIndex x y → nth0 x i = nth0 y i := by
  fun_induction firstDifferentIndex x y with
  | case1 => exact fun _ h => absurd h (Nat.not_lt_zero _)
  | case2 a b bs h =>
    intro i hi
    obtain rfl : i = 0 := by omega
    simpa using h
  | case3 a as b h =>
    intro i hi
    obtain rfl : i = 0 := by omega
    simpa using h
  | case4 a as b bs h _ _ ih =>
    intro i hi
    cases i with
    | zero => simpa using h
    | succ j => simpa using ih (by simpa using hl) j (by omega)
  | case5 t u hne =>
    -- equal lengths: both are empty
    match t, u, hl, hne with
    | [], [], _, _ => exact fun _ _ => rfl
    | _ :: _, _ :: _, _, hne => exact (hne _ _ _ _ rfl rfl).elim

theorem fdi_agree (a b : List Nat) (i : Nat)
    (hi : i < firstDifferentIndex (padZeros a (Nat.max a.length b.length)) (padZeros b (Nat.max a.length b.length))) :
    nth0 a i = nth0 b i := by
  have hlen : (padZeros a (Nat.max a.length b.length)).length = (padZeros b (Nat.max a.length b.length)).length := by
    rw [padZeros_length _ _ (Nat.le_max_left _ _), padZeros_length _ _ (Nat.le_max_right _ _)]
  have := fdi_prefix _ _ hlen i hi
  rwa [nth0_padZeros, nth0_padZeros] at this

theorem padZeros_tail_zero (x : List Nat) (L k : Nat) (h : ((padZeros x L).drop k).all (· == 0) = true)
    (i : Nat) (hi : k ≤ i) : nth0 x i = 0 := by
  have := nth0_of_drop_all_zero _ _ h i hi
  rwa [nth0_padZeros] at this

/-- `mx` agrees with `p` before position `fd` of `epoch :: release`, is one more there and zero after: it is the next
    series of `p` at `fd`, up to `eqv` -/
theorem nextSeries_bump (p mx : Ver) (fd : Nat) (hfd0 : 0 < fd) (hlen : fd ≤ p.release.length)
    (hfin : mx.isFinal = true)
    (hA : ∀ i, i < fd → nth0 (p.epoch :: p.release) i = nth0 (mx.epoch :: mx.release) i)
    (hB : nth0 (mx.epoch :: mx.release) fd = nth0 (p.epoch :: p.release) fd + 1)
    (hC : ∀ i, fd < i → nth0 (mx.epoch :: mx.release) i = 0) :
    ∃ nx, p.nextSeries fd = some nx ∧ eqv nx mx := by
  obtain ⟨nx, hns⟩ := nextSeries_some p fd hfd0 (by omega)
  refine ⟨nx, hns, ?_⟩
  obtain ⟨init, last, hil, rfl⟩ := nextSeries_eq p fd nx hns
  have hQ : (p.epoch :: init).length = fd := by
    have := congrArg List.length hil
    simp [List.length_take] at this ⊢; omega
  have hrel : ∀ j, j ≤ fd → nth0 (p.epoch :: p.release) j = nth0 (p.epoch :: init ++ [last]) j := by
    intro j hj
    cases j with
    | zero => rfl
    | succ j => rw [List.cons_append, nth0_cons_succ, nth0_cons_succ, ← hil, nth0_take _ _ _ (by omega)]
  subst hQ
  refine (eqv_final_iff _ mx rfl hfin).2 fun i => ?_
  show nth0 (p.epoch :: init ++ [last + 1] ++ [0]) i = _
  rw [nth0_append_zero]
  -- before `fd` both are `p`, at `fd` both are `last + 1`, beyond it both are zero
  rcases Nat.lt_trichotomy i (p.epoch :: init).length with h | rfl | h
  · rw [nth0_append_left _ _ _ h, ← hA i h, hrel i (by omega), nth0_append_left _ _ _ h]
  · rw [hB, hrel _ (Nat.le_refl _), nth0_append_at, nth0_append_at]
  · rw [nth0_beyond _ _ (by simp at h ⊢; omega), hC i h]

theorem isFinal_of_not_pre (v : Ver) (hp : v.isPrerelease = false) (hpost : v.post = none) : v.isFinal = true := by
  rcases v with ⟨e, r, pre, post, dev⟩
  cases hpost
  -- `is_prerelease` is `dev is not None or pre is not None`
  cases dev with
  | some _ => cases hp
  | none =>
    cases pre with
    | some _ => cases hp
    | none => rfl

/-- when `_simplified_form` chooses `~=mn` for `[mn, mx)` and `mx` is a final release,
    `mx` is (a spelling of) the next series of `mn` -/
theorem compat_render (mn mx : Ver) (h : compatForm mn mx = true) (hpost : mx.post = none) :
    ∃ nx, mn.nextSeries (mn.release.length - 1) = some nx ∧ eqv nx mx := by
  -- `h` tests `a = mn.epoch :: mn.release` and `b`, the same of `mx`, padded to length `L`, at their
  -- first different index `fd`: `0 < fd < L - 1`, `b[fd] = a[fd] + 1`, `b` zero after `fd`, `mx` no
  -- pre-release, `|mn.release| = fd + 1`: the hypotheses of `nextSeries_bump`
  simp only [compatForm] at h
  have hA := fdi_agree (mn.epoch :: mn.release) (mx.epoch :: mx.release)
  generalize Nat.max (mn.epoch :: mn.release).length (mx.epoch :: mx.release).length = L at h hA
  generalize firstDifferentIndex (padZeros (mn.epoch :: mn.release) L) (padZeros (mx.epoch :: mx.release) L) = fd at h hA
  split at h
  · cases h
  · rename_i c1
    split at h
    · cases h
    · rename_i c2
      simp only [Bool.and_eq_true, Bool.not_eq_true', beq_iff_eq] at h
      obtain ⟨⟨hzero, hpre⟩, hlenfd⟩ := h
      simp only [Bool.or_eq_true, decide_eq_true_eq, beq_iff_eq, not_or] at c1
      have hB : nth0 (mx.epoch :: mx.release) fd = nth0 (mn.epoch :: mn.release) fd + 1 := by
        rw [← nth0_padZeros (mx.epoch :: mx.release) L, ← nth0_padZeros (mn.epoch :: mn.release) L]
        simpa [nth0] using c2
      rw [show mn.release.length - 1 = fd by omega]
      exact nextSeries_bump mn mx fd (by omega) (by omega) (isFinal_of_not_pre mx hpre hpost) hA hB
        (padZeros_tail_zero _ _ _ hzero)

/-- when `!=p.*` is chosen for `(-inf, lm) ∪ [rm, +inf)` (both final), `lm` is `p.0` and `rm` is the
    next series of `p` -/
theorem wild_render (lm rm p : Ver) (h : wildForm lm rm = some p) (hl : lm.isFinal = true) (hr : rm.isFinal = true) :
    eqv (Ver.releaseVersion p.epoch p.release) lm ∧
    ∃ nx, p.nextSeries p.release.length = some nx ∧ eqv nx rm := by
  -- as in `compat_render`; here both sequences are zero after `fd` and `p` is `lm` up to `fd` (`hp`), so `p.0`
  -- and `lm` are one padded sequence, and `nextSeries_bump` gives `rm`
  simp only [wildForm] at h
  have hA := fdi_agree (lm.epoch :: lm.release) (rm.epoch :: rm.release)
  generalize hL : Nat.max (lm.epoch :: lm.release).length (rm.epoch :: rm.release).length = L at h hA
  have hlenL := padZeros_length (lm.epoch :: lm.release) L (hL ▸ Nat.le_max_left _ _)
  generalize firstDifferentIndex (padZeros (lm.epoch :: lm.release) L) (padZeros (rm.epoch :: rm.release) L) = fd at h hA
  split at h
  · rename_i c
    simp only [Bool.and_eq_true, decide_eq_true_eq, beq_iff_eq, List.all_append, Bool.not_eq_true'] at c
    obtain ⟨⟨⟨⟨hfd0, hfdL⟩, hB'⟩, hz1, hz2⟩, _⟩ := c
    simp only [Option.some.injEq] at h
    subst h
    have hB : nth0 (rm.epoch :: rm.release) fd = nth0 (lm.epoch :: lm.release) fd + 1 := by
      rw [← nth0_padZeros (rm.epoch :: rm.release) L, ← nth0_padZeros (lm.epoch :: lm.release) L]; exact hB'
    have hplen : ((padZeros (lm.epoch :: lm.release) L).drop 1 |>.take fd).length = fd := by
      rw [List.length_take, List.length_drop, hlenL, Nat.min_def]; split <;> omega
    -- `p`, as a sequence, is the first `fd + 1` components of `lm`
    have hp : ∀ i, i ≤ fd → nth0 (lm.epoch :: ((padZeros (lm.epoch :: lm.release) L).drop 1 |>.take fd)) i =
        nth0 (lm.epoch :: lm.release) i := by
      intro i hi
      show nth0 ((padZeros (lm.epoch :: lm.release) L).take (fd + 1)) i = _
      rw [nth0_take _ _ _ (by omega), nth0_padZeros]
    simp only
    constructor
    · refine (eqv_final_iff _ lm rfl hl).2 fun i => ?_
      show nth0 (lm.epoch :: _ ++ [0]) i = _
      rw [nth0_append_zero]
      by_cases hi : i ≤ fd
      · exact hp i hi
      · rw [nth0_beyond _ _ (by simp only [List.length_cons, hplen]; omega), padZeros_tail_zero _ _ _ hz1 i (by omega)]
    · rw [hplen]
      exact nextSeries_bump _ rm fd hfd0 (by rw [hplen]; exact Nat.le_refl _) hr
        (fun i hi => (hp i (by omega)).trans (hA i hi)) (hB.trans (congrArg (· + 1) (hp fd (Nat.le_refl _)).symm))
        (padZeros_tail_zero _ _ _ hz2)
  · cases h

theorem wildForm_shape (lm rm p : Ver) (h : wildForm lm rm = some p) :
    p.isFinal = true ∧ p.epoch = lm.epoch ∧ p.release ≠ [] := by
  simp only [wildForm] at h
  generalize hL : Nat.max (lm.epoch :: lm.release).length (rm.epoch :: rm.release).length = L at h
  generalize firstDifferentIndex (padZeros (lm.epoch :: lm.release) L) (padZeros (rm.epoch :: rm.release) L) = fd at h
  have hlenL := padZeros_length (lm.epoch :: lm.release) L (hL ▸ Nat.le_max_left _ _)
  split at h
  · rename_i c
    simp only [Bool.and_eq_true, decide_eq_true_eq] at c
    obtain ⟨⟨⟨⟨hfd0, hfdL⟩, _⟩, _⟩, _⟩ := c
    simp only [Option.some.injEq] at h
    subst h
    refine ⟨rfl, rfl, ?_⟩
    intro hnil
    have := congrArg List.length hnil
    simp only [List.length_take, List.length_drop, hlenL, List.length_nil, Nat.min_def] at this
    split at this <;> omega
  · cases h

theorem strClauses_forms (r : Range Ver) (ht : r.text = none) :
    match r.min, r.max with
    | none, none => r.strClauses = []
    | none, some b => r.strClauses = [⟨if r.incMax then .le else .lt, b, false⟩]
    | some a, none => r.strClauses = [⟨if r.incMin then .ge else .gt, a, false⟩]
    | some a, some b =>
      (eqv a b ∧ r.strClauses = [⟨.eq, a, false⟩]) ∨
      (¬ eqv a b ∧ r.incMin = true ∧ r.incMax = false ∧ compatForm a b = true ∧
        r.strClauses = [⟨.compat, a, false⟩]) ∨
      (¬ eqv a b ∧ r.strClauses = twoClauses r a b) := by
  rcases r with ⟨mn, mx, i, j, t⟩
  cases ht
  cases mn <;> cases mx <;> simp only [Range.strClauses]
  rename_i a b
  by_cases hab : eqv a b
  · rw [if_pos hab]; exact .inl ⟨hab, rfl⟩
  rw [if_neg hab]
  by_cases hf : (!i || j) = true
  · rw [if_pos hf]; exact .inr (.inr ⟨hab, rfl⟩)
  rw [if_neg hf]
  by_cases hc : compatForm a b = true
  · rw [if_pos hc]
    simp only [Bool.not_eq_true, Bool.or_eq_false_iff, Bool.not_eq_false'] at hf
    obtain ⟨rfl, rfl⟩ := hf
    exact .inr (.inl ⟨hab, rfl, rfl, hc, rfl⟩)
  · rw [if_neg hc]; exact .inr (.inr ⟨hab, rfl⟩)

theorem unionSimplified_forms (rs : List (Range Ver)) (c : Clause Ver) (h : unionSimplified rs none = some c) :
    ∃ left right lm rm, rs = [left, right] ∧ left.min = none ∧ right.max = none ∧
      left.max = some lm ∧ right.min = some rm ∧
      ((eqv lm rm ∧ c = ⟨.ne, lm, false⟩) ∨
       (¬ eqv lm rm ∧ left.incMax = false ∧ right.incMin = true ∧
        lm.isPrerelease = false ∧ rm.isPrerelease = false ∧ lm.isPostrelease = false ∧ rm.isPostrelease = false ∧
        ∃ p, wildForm lm rm = some p ∧ c = ⟨.ne, p, true⟩)) := by
  generalize ht : (none : Option (Clause Ver)) = t at h
  revert h
  -- in the order of its branches: case1 a cached clause, case2 `!=V`, case4 `!=V.*`; every other branch answers `none`
  fun_cases unionSimplified rs t <;> intro h
  case case1 => cases ht
  case case2 left right lm rm hrmin hlmax hrmax hlmin hab =>
    cases h; exact ⟨left, right, lm, rm, rfl, hlmin, hrmax, hlmax, hrmin, .inl ⟨hab, rfl⟩⟩
  case case4 left right lm rm hrmin hlmax hrmax hlmin hab hf hs =>
    obtain ⟨p, hp, rfl⟩ := Option.map_eq_some_iff.1 h
    simp only [Bool.and_eq_true, Bool.not_eq_true'] at hf
    simp only [Bool.or_eq_true, not_or, Bool.not_eq_true] at hs
    exact ⟨left, right, lm, rm, rfl, hlmin, hrmax, hlmax, hrmin,
      .inr ⟨hab, hf.1, hf.2, hs.1.1.1, hs.1.1.2, hs.1.2, hs.2, p, hp, rfl⟩⟩
  all_goals cases h

end DepLogic
