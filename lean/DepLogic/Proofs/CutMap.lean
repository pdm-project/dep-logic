import DepLogic.Proofs.SpecTheorems
/-
  Order embeddings commute with every specifier operation.

  `range.py`/`union.py` only ever COMPARE bounds, so the whole algebra is natural in the bound
  type: mapping all bounds through an order embedding `f` and then operating is the same as
  operating and then mapping.  Used with the embedding of a bound type into its "cut"
  extension (Proofs/CanonUnique.lean) to read specifier objects as sets over a line on which
  canonical forms are unique, whatever the bound type (PEP 440 versions are not dense).
-/
namespace DepLogic
open LinPre

theorem List.exists_mem_map {γ δ : Type} {g : γ → δ} {l : List γ} {P : δ → Prop} :
    (∃ y ∈ l.map g, P y) ↔ ∃ x ∈ l, P (g x) :=
  ⟨fun ⟨_, hy, h⟩ => let ⟨x, hx, e⟩ := List.mem_map.1 hy; ⟨x, hx, e ▸ h⟩,
    fun ⟨_, hx, h⟩ => ⟨_, List.mem_map_of_mem hx, h⟩⟩

structure Emb (α β : Type) [LinPre α] [LinPre β] where
  f : α → β
  le_iff : ∀ a b, le (f a) (f b) ↔ le a b

namespace Emb
variable {α β : Type} [LinPre α] [LinPre β] (e : Emb α β)

theorem lt_iff (a b : α) : lt (e.f a) (e.f b) ↔ lt a b := not_congr (e.le_iff b a)
theorem eqv_iff (a b : α) : eqv (e.f a) (e.f b) ↔ eqv a b := and_congr (e.le_iff a b) (e.le_iff b a)
@[simp] theorem dlt (a b : α) : decide (lt (e.f a) (e.f b)) = decide (lt a b) := decide_eq_decide.2 (e.lt_iff a b)
@[simp] theorem deqv (a b : α) : decide (eqv (e.f a) (e.f b)) = decide (eqv a b) := decide_eq_decide.2 (e.eqv_iff a b)
@[simp] theorem dle (a b : α) : decide (le (e.f a) (e.f b)) = decide (le a b) := decide_eq_decide.2 (e.le_iff a b)
end Emb

def Clause.map {α β : Type} (f : α → β) (c : Clause α) : Clause β := { op := c.op, ver := f c.ver, wild := c.wild }

def Cut.map {α β : Type} (f : α → β) (c : Cut α) : Cut β := ⟨f c.pt, c.side⟩

namespace Pos
variable {α β : Type} [LinPre α] [LinPre β]

def map (f : α → β) : Pos α → Pos β
  | bot => bot
  | cut c => cut (c.map f)
  | top => top

theorem map_le (e : Emb α β) : ∀ a b : Pos α, le (a.map e.f) (b.map e.f) ↔ le a b
  | cut _, cut _ => or_congr (e.lt_iff _ _) (and_congr (e.eqv_iff _ _) Iff.rfl)
  | bot, _ => Iff.rfl
  | cut _, bot => Iff.rfl
  | cut _, top => Iff.rfl
  | top, bot => Iff.rfl
  | top, cut _ => Iff.rfl
  | top, top => Iff.rfl

theorem map_lt (e : Emb α β) (a b : Pos α) : lt (a.map e.f) (b.map e.f) ↔ lt a b := not_congr (map_le e b a)

end Pos

namespace Range
variable {α β : Type} [LinPre α] [LinPre β]

def map (f : α → β) (r : Range α) : Range β :=
  { min := r.min.map f, max := r.max.map f, incMin := r.incMin, incMax := r.incMax, text := r.text.map (Clause.map f) }

variable (e : Emb α β)

@[simp] theorem map_isAny (r : Range α) : (r.map e.f).isAny = r.isAny := by
  cases r with | mk mn mx a b t => cases mn <;> cases mx <;> rfl

omit [LinPre α] [LinPre β] in
theorem map_lo (f : α → β) (r : Range α) : (r.map f).lo = r.lo.map f := by
  unfold lo map; cases r.min <;> rfl
omit [LinPre α] [LinPre β] in
theorem map_hi (f : α → β) (r : Range α) : (r.map f).hi = r.hi.map f := by
  unfold hi map; cases r.max <;> rfl

@[simp] theorem map_allowsLower (s o : Range α) : (s.map e.f).allowsLower (o.map e.f) = s.allowsLower o :=
  Bool.eq_iff_iff.2 (by rw [allowsLower_iff, allowsLower_iff, map_lo, map_lo]; exact Pos.map_lt e _ _)

@[simp] theorem map_allowsHigher (s o : Range α) : (s.map e.f).allowsHigher (o.map e.f) = s.allowsHigher o :=
  Bool.eq_iff_iff.2 (by rw [allowsHigher_iff, allowsHigher_iff, map_hi, map_hi]; exact Pos.map_lt e _ _)

@[simp] theorem map_isStrictlyLower (s o : Range α) : (s.map e.f).isStrictlyLower (o.map e.f) = s.isStrictlyLower o :=
  Bool.eq_iff_iff.2 (by rw [isStrictlyLower_iff, isStrictlyLower_iff, map_hi, map_lo]; exact Pos.map_le e _ _)

@[simp] theorem map_isAdjacentTo (s o : Range α) : (s.map e.f).isAdjacentTo (o.map e.f) = s.isAdjacentTo o :=
  Bool.eq_iff_iff.2 (by
    rw [isAdjacentTo_iff, isAdjacentTo_iff, map_hi, map_lo]
    exact and_congr (Pos.map_le e _ _) (Pos.map_le e _ _))

@[simp] theorem map_isSuperset (s o : Range α) : (s.map e.f).isSuperset (o.map e.f) = s.isSuperset o :=
  Bool.eq_iff_iff.2 (by
    rw [isSuperset_iff, isSuperset_iff, map_lo, map_lo, map_hi, map_hi]
    exact and_congr (Pos.map_le e _ _) (Pos.map_le e _ _))

@[simp] theorem map_canCombine (s o : Range α) : (s.map e.f).canCombine (o.map e.f) = s.canCombine o := by
  simp [canCombine]

/- The conditions agree by the lemmas above and `Option.map` goes inside the `if`s (`apply_ite`);
   what is left is which bounds the last branch picks. -/
theorem map_and (s o : Range α) : (s.map e.f).and (o.map e.f) = (s.and o).map (map e.f) := by
  simp only [Range.and, map_isSuperset, map_allowsLower, map_isStrictlyLower, map_allowsHigher,
    apply_ite (Option.map (map e.f)), Option.map_some, Option.map_none]
  cases s.allowsLower o <;> cases s.allowsHigher o <;> rfl

def OrRes.map (f : α → β) : OrRes α → OrRes β
  | .one r => .one (r.map f)
  | .two a b => .two (a.map f) (b.map f)

theorem map_or (s o : Range α) : (s.map e.f).or (o.map e.f) = (s.or o).map e.f := by
  simp only [Range.or, map_isSuperset, map_allowsLower, map_isStrictlyLower, map_allowsHigher, map_isAdjacentTo,
    apply_ite (OrRes.map e.f)]
  cases s.allowsLower o <;> cases s.allowsHigher o <;> rfl

@[simp] theorem map_beq (a b : Range α) : (a.map e.f).beq (b.map e.f) = a.beq b := by
  rcases a with ⟨am, ax, ai, aj, at'⟩; rcases b with ⟨bm, bx, bi, bj, bt⟩
  simp only [Range.beq, map]
  congr 3
  · cases am <;> cases bm <;> simp
  · cases ax <;> cases bx <;> simp

theorem map_WF (r : Range α) : (r.map e.f).WF ↔ r.WF := by
  have hc : (r.map e.f).ctorOk = r.ctorOk := by unfold ctorOk map; cases r.min <;> cases r.max <;> rfl
  rw [WF_iff, WF_iff, hc, map_lo, map_hi]
  exact and_congr Iff.rfl (Pos.map_lt e _ _)

theorem map_mem (r : Range α) (v : α) : (r.map e.f).mem (e.f v) ↔ r.mem v := by
  rw [mem_iff, mem_iff, map_lo, map_hi]
  exact and_congr (Pos.map_lt e _ (Pos.pt v)) (Pos.map_lt e (Pos.pt v) _)

end Range

namespace Spec
variable {α β : Type} [LinPre α] [LinPre β]

def map (f : α → β) : Spec α → Spec β
  | .empty => .empty
  | .any => .any
  | .range r => .range (r.map f)
  | .union rs t => .union (rs.map (Range.map f)) (t.map (Clause.map f))

@[simp] theorem map_empty (f : α → β) : (Spec.empty : Spec α).map f = .empty := rfl
@[simp] theorem map_any (f : α → β) : (Spec.any : Spec α).map f = .any := rfl
@[simp] theorem map_range (f : α → β) (r : Range α) : (Spec.range r).map f = .range (r.map f) := rfl
@[simp] theorem map_union (f : α → β) (rs : List (Range α)) (t : Option (Clause α)) :
    (Spec.union rs t).map f = .union (rs.map (Range.map f)) (t.map (Clause.map f)) := rfl

variable (e : Emb α β)

theorem map_fromRanges (rs : List (Range α)) : (fromRanges rs).map e.f = fromRanges (rs.map (Range.map e.f)) := by
  match rs with
  | [] => rfl
  | [r] => rfl
  | _ :: _ :: _ => rfl

@[simp] theorem map_isAny (s : Spec α) : (s.map e.f).isAny = s.isAny := by
  cases s <;> simp [map, isAny]

@[simp] theorem map_isEmpty (s : Spec α) : (s.map e.f).isEmpty = s.isEmpty := by
  cases s <;> rfl

theorem map_andProduct (xs ys : List (Range α)) :
    andProduct (xs.map (Range.map e.f)) (ys.map (Range.map e.f)) = (andProduct xs ys).map (Range.map e.f) := by
  simp only [andProduct, List.flatMap_map, List.map_flatMap, List.filterMap_map, List.map_filterMap,
    Function.comp_def, Range.map_and]

theorem map_and (a b : Spec α) : (a.map e.f).and (b.map e.f) = (a.and b).map e.f := by
  cases a <;> cases b <;> simp only [map_empty, map_any, map_range, map_union, Spec.and]
  · rename_i x y
    rw [Range.map_and]; cases x.and y <;> rfl
  -- the three cases with a union: the `is_any` shortcut or the product, a range being the one-element list
  all_goals simp only [Range.map_isAny, apply_ite (map e.f), map_fromRanges, ← map_andProduct, List.map_cons,
    List.map_nil, map_union]

theorem map_gaps : ∀ rs : List (Range α), gaps (rs.map (Range.map e.f)) = (gaps rs).map (Range.map e.f)
  | [] => rfl
  | [l] => by
    rcases l with ⟨m, x, i, j, t⟩
    cases x <;> rfl
  | a :: b :: rest => by
    have ih := map_gaps (b :: rest)
    simp only [List.map_cons] at ih ⊢
    simp only [gaps, List.map_cons, ih]
    rfl

theorem map_invertUnion (rs : List (Range α)) : invertUnion (rs.map (Range.map e.f)) = (invertUnion rs).map e.f := by
  simp only [invertUnion, map_fromRanges, List.map_append, map_gaps]
  congr 2
  cases rs with
  | nil => rfl
  | cons f' _ =>
    rcases f' with ⟨m, x, i, j, t⟩
    cases m <;> rfl

theorem map_invert (a : Spec α) : (a.map e.f).invert = a.invert.map e.f := by
  cases a
  · rfl
  · rfl
  · show invertRange _ = (invertRange _).map e.f
    rw [invertRange_eq, invertRange_eq]
    exact map_invertUnion e [_]
  · exact map_invertUnion e _

theorem map_orLoop (o : Range α) : ∀ rs : List (Range α),
    orLoop (o.map e.f) (rs.map (Range.map e.f)) = (orLoop o rs).map (List.map (Range.map e.f))
  | [] => rfl
  | r :: rest => by
    simp only [List.map_cons, orLoop, Range.map_canCombine, Range.map_allowsLower, Range.map_or]
    split
    · cases h : o.or r with
      | one x => simp only [Range.OrRes.map]; exact map_orLoop x rest
      | two _ _ => rfl
    · split
      · rfl
      · rw [map_orLoop o rest]; cases orLoop o rest <;> rfl

theorem map_unionOrRange (xs : List (Range α)) (o : Range α) :
    unionOrRange (xs.map (Range.map e.f)) (o.map e.f) = (unionOrRange xs o).map (map e.f) := by
  simp only [unionOrRange, Range.map_isAny]
  split
  · rfl
  · rw [map_orLoop]; cases orLoop o xs <;> simp [map_fromRanges]

theorem map_orRange (s : Spec α) (o : Range α) : orRange (s.map e.f) (o.map e.f) = (orRange s o).map (map e.f) := by
  cases s with
  | empty => rfl
  | any => rfl
  | range a =>
    simp only [map_range, orRange, Range.map_or]
    cases a.or o <;> rfl
  | union xs t => exact map_unionOrRange e xs o

theorem map_orFold (s : Spec α) : ∀ rs : List (Range α),
    orFold (s.map e.f) (rs.map (Range.map e.f)) = (orFold s rs).map (map e.f)
  | [] => rfl
  | r :: rest => by
    simp only [List.map_cons, orFold, map_orRange]
    cases h : orRange s r with
    | none => rfl
    | some s' => simp only [Option.map_some, Option.bind_some]; exact map_orFold s' rest

theorem map_or (a b : Spec α) : (a.map e.f).or (b.map e.f) = (a.or b).map (map e.f) := by
  cases a <;> cases b <;> simp only [map_empty, map_any, map_range, map_union, Spec.or, Option.map_some]
  · rename_i x y; exact map_orRange e (.range x) y
  · rename_i x ys yt; exact map_unionOrRange e ys x
  · rename_i xs xt o; exact map_unionOrRange e xs o
  · rename_i xs xt ys yt; exact map_orFold e (.union xs xt) ys

@[simp] theorem map_beq (a b : Spec α) : (a.map e.f).beq (b.map e.f) = a.beq b := by
  cases a <;> cases b <;>
    simp [map, Spec.beq, isAny, List.zip_map, List.all_map, Function.comp_def]

theorem map_sep (a b : Range α) : sep (a.map e.f) (b.map e.f) ↔ sep a b := by
  rw [Range.sep_iff, Range.sep_iff, Range.map_hi, Range.map_lo]
  exact Pos.map_lt e _ _

theorem map_canon (s : Spec α) : Canon (s.map e.f) ↔ Canon s := by
  cases s with
  | empty => exact Iff.rfl
  | any => exact Iff.rfl
  | range r => exact Range.map_WF e r
  | union rs t =>
    simp only [map, Canon, List.length_map, List.mem_map, forall_exists_index, and_imp,
      forall_apply_eq_imp_iff₂, Range.map_WF, List.pairwise_map, map_sep]

theorem map_mem (s : Spec α) (v : α) : (s.map e.f).mem (e.f v) ↔ s.mem v := by
  cases s with
  | empty => exact Iff.rfl
  | any => exact Iff.rfl
  | range r => exact Range.map_mem e r v
  | union rs t => simp only [map_union, mem, List.exists_mem_map, Range.map_mem]

end Spec
/-! A specifier all of whose bounds satisfy `P` is the image of a specifier over the subtype
`{v // P v}` under the inclusion, which is an order embedding; the operators commute with it. -/

instance subLinPre {α : Type} [LinPre α] (P : α → Prop) : LinPre {v : α // P v} where
  le a b := LinPre.le a.1 b.1
  decLe := fun a b => inferInstanceAs (Decidable (LinPre.le a.1 b.1))
  le_refl a := LinPre.le_refl a.1
  le_trans a b c := LinPre.le_trans a.1 b.1 c.1
  le_total a b := LinPre.le_total a.1 b.1

def subEmb {α : Type} [LinPre α] (P : α → Prop) : Emb {v : α // P v} α where
  f := Subtype.val
  le_iff := fun _ _ => Iff.rfl

namespace Spec
variable {α : Type} [LinPre α]

/-- every version stored in the specifier, bounds and cached clauses, satisfies `P` (`boundsIn_iff_allVers`) -/
def BoundsIn (P : α → Prop) (s : Spec α) : Prop := ∃ s' : Spec {v : α // P v}, s'.map (subEmb P).f = s

theorem and_boundsIn (P : α → Prop) (a b : Spec α) (ha : BoundsIn P a) (hb : BoundsIn P b) : BoundsIn P (a.and b) := by
  obtain ⟨a', rfl⟩ := ha
  obtain ⟨b', rfl⟩ := hb
  exact ⟨a'.and b', (map_and (subEmb P) a' b').symm⟩

theorem or_boundsIn (P : α → Prop) (a b r : Spec α) (ha : BoundsIn P a) (hb : BoundsIn P b) (h : a.or b = some r) :
    BoundsIn P r := by
  obtain ⟨a', rfl⟩ := ha
  obtain ⟨b', rfl⟩ := hb
  rw [map_or, Option.map_eq_some_iff] at h
  obtain ⟨r', _, hr⟩ := h
  exact ⟨r', hr⟩

theorem invert_boundsIn (P : α → Prop) (a : Spec α) (ha : BoundsIn P a) : BoundsIn P a.invert := by
  obtain ⟨a', rfl⟩ := ha
  exact ⟨a'.invert, (map_invert (subEmb P) a').symm⟩

theorem boundsIn_empty (P : α → Prop) : BoundsIn P (.empty : Spec α) := ⟨.empty, rfl⟩
theorem boundsIn_any (P : α → Prop) : BoundsIn P (.any : Spec α) := ⟨.any, rfl⟩

end Spec
namespace Range
variable {α : Type} [LinPre α]

def AllVers (P : α → Prop) (r : Range α) : Prop :=
  (∀ m, r.min = some m → P m) ∧ (∀ m, r.max = some m → P m) ∧ (∀ c, r.text = some c → P c.ver)

def _root_.DepLogic.Clause.sub (P : α → Prop) (c : Clause α) (h : P c.ver) : Clause {v : α // P v} :=
  ⟨c.op, ⟨c.ver, h⟩, c.wild⟩

def sub (P : α → Prop) (r : Range α) (h : r.AllVers P) : Range {v : α // P v} :=
  { min := r.min.pmap (fun x hx => ⟨x, hx⟩) h.1, max := r.max.pmap (fun x hx => ⟨x, hx⟩) h.2.1,
    incMin := r.incMin, incMax := r.incMax, text := r.text.pmap (Clause.sub P) h.2.2 }

omit [LinPre α] in
theorem sub_map (P : α → Prop) (r : Range α) (h : r.AllVers P) : (r.sub P h).map Subtype.val = r := by
  rcases r with ⟨m, M, i, j, t⟩
  simp [sub, map, Option.map_pmap, Clause.map, Clause.sub]

theorem allVers_map (P : α → Prop) (r' : Range {v : α // P v}) : (r'.map (subEmb P).f).AllVers P := by
  simp only [AllVers, map, Option.map_eq_some_iff]
  exact ⟨fun _ ⟨x, _, hx⟩ => hx ▸ x.2, fun _ ⟨x, _, hx⟩ => hx ▸ x.2, fun _ ⟨c, _, hc⟩ => hc ▸ c.ver.2⟩

end Range

namespace Spec
variable {α : Type} [LinPre α]

def AllVers (P : α → Prop) : Spec α → Prop
  | .range r => r.AllVers P
  | .union rs t => (∀ r ∈ rs, r.AllVers P) ∧ (∀ c, t = some c → P c.ver)
  | _ => True

theorem boundsIn_of_allVers (P : α → Prop) (s : Spec α) (h : s.AllVers P) : BoundsIn P s := by
  cases s with
  | empty => exact boundsIn_empty P
  | any => exact boundsIn_any P
  | range r => exact ⟨.range (r.sub P h), congrArg Spec.range (Range.sub_map P r h)⟩
  | union rs t =>
    exact ⟨.union (rs.pmap (Range.sub P) h.1) (t.pmap (Clause.sub P) h.2), by
      simp [subEmb, List.map_pmap, Option.map_pmap, Range.sub_map, Clause.map, Clause.sub]⟩

theorem allVers_of_boundsIn (P : α → Prop) (s : Spec α) (h : BoundsIn P s) : s.AllVers P := by
  obtain ⟨s', rfl⟩ := h
  cases s' with
  | empty => trivial
  | any => trivial
  | range r' => exact Range.allVers_map P r'
  | union rs' t' =>
    simp only [map_union, AllVers, List.mem_map, Option.map_eq_some_iff]
    exact ⟨fun _ ⟨r', _, hr⟩ => hr ▸ Range.allVers_map P r', fun _ ⟨c', _, hc⟩ => hc ▸ c'.ver.2⟩

theorem boundsIn_iff_allVers (P : α → Prop) (s : Spec α) : BoundsIn P s ↔ s.AllVers P :=
  ⟨allVers_of_boundsIn P s, boundsIn_of_allVers P s⟩

end Spec
end DepLogic
