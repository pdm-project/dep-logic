import DepLogic.Proofs.CutMap
/-
  Canonical forms are unique — over the CUT extension of the bound type.

  A specifier object over bounds `α` is read as a set of cuts (`Cut α`, Proofs/Ends.lean).  The ends of
  a range lie strictly between cuts, and directly above every end there is a cut: that is what makes
  the ends of a canonical list recoverable from its cuts.
  Over cuts, every structurally non-empty range has a member and two canonical objects with the
  same members are `==` (`canon_unique`) — for ANY linear preorder `α`, dense or not.
-/
namespace DepLogic
open LinPre

namespace Cut
variable {α : Type} [LinPre α]

def ι : Emb α (Cut α) where
  f := fun a => ⟨a, 1⟩
  le_iff := by
    intro a b
    have t2 := @LinPre.le_total α _
    simp only [le_def, lt, eqv]
    grind

end Cut

namespace Pos
variable {α : Type} [LinPre α]

def IsEnd : Pos α → Prop
  | cut c => c.side = 1 ∨ c.side = 3
  | _ => True

/-- The cut immediately above an end: no end lies strictly between the two.  This is what the
    cut extension is for; over the bound type itself there need be no version there.  (An end that
    lies strictly between two positions is not an infinity.) -/
theorem exists_cut_above {a p q : Pos α} (ha : IsEnd a) (hp : lt p a) (hq : lt a q) :
    ∃ d : Cut α, lt a (ofCut d) ∧ ∀ b : Pos α, IsEnd b → lt a b → lt (ofCut d) b := by
  cases a with
  | bot => exact (hp (bot_le _)).elim
  | top => exact (hq (le_top _)).elim
  | cut c =>
    -- the cut at the same bound on the next even side
    have hc : c.side = 1 ∨ c.side = 3 := ha
    refine ⟨⟨c.pt, (c.side + 1) / 2⟩, (cut_lt_cut _ _).2 (.inr ⟨⟨le_refl _, le_refl _⟩, ?_⟩), fun b hb h => ?_⟩
    · show c.side < 2 * ((c.side + 1) / 2); omega
    · cases b with
      | bot => exact (h (bot_le _)).elim
      | top => exact not_top_le_cut _
      | cut b =>
        have hb : b.side = 1 ∨ b.side = 3 := hb
        refine (cut_lt_cut _ _).2 (((cut_lt_cut _ _).1 h).imp id fun ⟨e, hs⟩ => ⟨e, ?_⟩)
        show 2 * ((c.side + 1) / 2) < b.side; omega

theorem exists_cut_between (a0 : α) {a b : Pos α} (ha : IsEnd a) (hb : IsEnd b) (h : lt a b) :
    ∃ d : Cut α, lt a (ofCut d) ∧ lt (ofCut d) b := by
  cases a with
  | bot =>
    cases b with
    | bot => exact (h (bot_le _)).elim
    | cut c =>
      have hc : c.side = 1 ∨ c.side = 3 := hb
      refine ⟨⟨c.pt, 0⟩, not_cut_le_bot _, (cut_lt_cut _ _).2 (.inr ⟨⟨le_refl _, le_refl _⟩, ?_⟩)⟩
      show 2 * 0 < c.side; omega
    | top => exact ⟨⟨a0, 0⟩, not_cut_le_bot _, not_top_le_cut _⟩
  | cut c =>
    obtain ⟨d, h1, h2⟩ := exists_cut_above ha (not_cut_le_bot c) h
    exact ⟨d, h1, h2 b hb h⟩
  | top => exact (h (le_top _)).elim

end Pos

namespace Range
variable {α : Type} [LinPre α]

omit [LinPre α] in
theorem lo_isEnd (r : Range α) : Pos.IsEnd r.lo := by
  unfold lo Pos.lower; cases r.min <;> cases r.incMin <;> simp [Pos.IsEnd]
omit [LinPre α] in
theorem hi_isEnd (r : Range α) : Pos.IsEnd r.hi := by
  unfold hi Pos.upper; cases r.max <;> cases r.incMax <;> simp [Pos.IsEnd]

def memC (r : Range α) (x : α) (s : Nat) : Prop := lt r.lo (Pos.ofCut ⟨x, s⟩) ∧ lt (Pos.ofCut ⟨x, s⟩) r.hi

theorem mem_cut (r : Range α) (x : α) (s : Nat) : (r.map Cut.ι.f).mem ⟨x, s⟩ ↔ r.memC x s := by
  -- an end of the range over cuts, seen from a cut, is the end of the range seen from where the cut sits
  rcases r with ⟨m, M, i, j, t⟩
  refine (mem_iff _ _).trans (and_congr ?_ ?_)
  · cases m <;> simp only [map, Cut.ι, Option.map_none, Option.map_some] <;> ends_tac
  · cases M <;> simp only [map, Cut.ι, Option.map_none, Option.map_some] <;> ends_tac

end Range

namespace Spec
variable {α : Type} [LinPre α]

def memC (a : Spec α) (x : α) (s : Nat) : Prop := (a.map Cut.ι.f).mem ⟨x, s⟩

theorem memC_union (rs : List (Range α)) (t : Option (Clause α)) (x : α) (s : Nat) :
    (Spec.union rs t).memC x s ↔ ∃ r ∈ rs, r.memC x s := by
  simp only [memC, map_union, mem, List.exists_mem_map, Range.mem_cut]

theorem memC_range (r : Range α) (x : α) (s : Nat) : (Spec.range r).memC x s ↔ r.memC x s :=
  Range.mem_cut r x s

theorem memC_point (a : Spec α) (v : α) : a.memC v 1 ↔ a.mem v := map_mem Cut.ι a v

end Spec

namespace Range
variable {α : Type} [LinPre α]

/-- the `match` is how `Range.beq` compares one pair of bounds -/
theorem lower_eqv (m n : Option α) (i j : Bool) : eqv (Pos.lower m i) (Pos.lower n j) ↔
    (match m, n with
     | none, none => true
     | some x, some y => decide (eqv x y)
     | _, _ => false) = true ∧ (m.isSome = true → i = j) := by
  cases m <;> cases n <;> ends_tac

theorem upper_eqv (m n : Option α) (i j : Bool) : eqv (Pos.upper m i) (Pos.upper n j) ↔
    (match m, n with
     | none, none => true
     | some x, some y => decide (eqv x y)
     | _, _ => false) = true ∧ (m.isSome = true → i = j) := by
  cases m <;> cases n <;> ends_tac

theorem ends_of_beq (r q : Range α) (h : r.beq q = true) : eqv r.lo q.lo ∧ eqv r.hi q.hi := by
  simp only [Range.beq, Bool.and_eq_true, beq_iff_eq] at h
  obtain ⟨⟨⟨h1, h2⟩, h3⟩, h4⟩ := h
  exact ⟨(lower_eqv ..).2 ⟨h1, fun _ => h3⟩, (upper_eqv ..).2 ⟨h2, fun _ => h4⟩⟩

/-- without a bound the flag is `false` on both sides, by `ctorOk` -/
theorem beq_of_ends (r q : Range α) (hr : r.ctorOk = true) (hq : q.ctorOk = true)
    (h1 : eqv r.lo q.lo) (h2 : eqv r.hi q.hi) : r.beq q = true := by
  rcases r with ⟨m, M, i, j, t⟩; rcases q with ⟨m', M', i', j', t'⟩
  obtain ⟨l1, l2⟩ := (lower_eqv m m' i i').1 h1
  obtain ⟨u1, u2⟩ := (upper_eqv M M' j j').1 h2
  simp only [Range.beq, Bool.and_eq_true, beq_iff_eq]
  refine ⟨⟨⟨l1, u1⟩, ?_⟩, ?_⟩
  · cases m with
    | some _ => exact l2 rfl
    | none =>
      cases m' with
      | some _ => cases l1
      | none => simp [ctorOk] at hr hq; rw [hr.1, hq.1]
  · cases M with
    | some _ => exact u2 rfl
    | none =>
      cases M' with
      | some _ => cases u1
      | none => simp [ctorOk] at hr hq; rw [hr.2, hq.2]

theorem wf_has_cut (r : Range α) (h : r.WF) (a0 : α) : ∃ x s, r.memC x s := by
  obtain ⟨d, h1, h2⟩ := Pos.exists_cut_between a0 r.lo_isEnd r.hi_isEnd h.lt
  exact ⟨d.pt, d.side, h1, h2⟩

end Range

namespace Spec
variable {α : Type} [LinPre α]
open Range

def memCL (rs : List (Range α)) (x : α) (s : Nat) : Prop := ∃ r ∈ rs, r.memC x s

/-- `==` of two unions, on their lists -/
def beqL (xs ys : List (Range α)) : Bool := xs.length == ys.length && (xs.zip ys).all fun p => p.1.beq p.2

theorem beqL_cons (r q : Range α) (as bs : List (Range α)) : beqL (r :: as) (q :: bs) = (r.beq q && beqL as bs) := by
  have e : (as.length + 1 == bs.length + 1) = (as.length == bs.length) := by simp
  simp only [beqL, List.length_cons, List.zip_cons_cons, List.all_cons, Bool.and_left_comm, e]

/-- The first range of one canonical list cannot start lower than the first of another with the
    same cuts: there would be a cut of it below the other's start, hence below all of the other. -/
theorem not_starts_lower (a0 : α) {r q : Range α} {as bs : List (Range α)} (hr : r.WF) (hq : q.WF)
    (sepB : ∀ b ∈ bs, sep q b) (h : ∀ x s, memCL (r :: as) x s → memCL (q :: bs) x s) : le q.lo r.lo := by
  refine Decidable.not_not.1 fun hl => ?_
  -- `e`: the smaller of `r`'s upper end and `q`'s start
  obtain ⟨e, he, h1, h2, h3⟩ : ∃ e, Pos.IsEnd e ∧ lt r.lo e ∧ le e r.hi ∧ le e q.lo :=
    (le_total r.hi q.lo).elim (fun h => ⟨_, r.hi_isEnd, hr.lt, le_refl _, h⟩) (fun h => ⟨_, q.lo_isEnd, hl, h, le_refl _⟩)
  obtain ⟨d, d1, d2⟩ := Pos.exists_cut_between a0 r.lo_isEnd he h1
  have hd : lt (Pos.ofCut d) q.lo := lt_of_lt_of_le d2 h3
  obtain ⟨b, hb, hbm⟩ := h d.pt d.side ⟨r, List.mem_cons_self, d1, lt_of_lt_of_le d2 h2⟩
  rcases List.mem_cons.1 hb with rfl | hb
  · exact hbm.1 (le_of_lt hd)
  · exact hbm.1 (le_of_lt (lt_trans hd (lt_trans hq.lt (sepB b hb).lt)))

/-- A first range that starts no lower cannot end lower either: the cut just above its upper end would
    be a cut of the other list only. -/
theorem not_ends_lower {r q : Range α} {as bs : List (Range α)} (hr : r.WF) (hs : le q.lo r.lo)
    (sepA : ∀ a ∈ as, sep r a) (h : ∀ x s, memCL (q :: bs) x s → memCL (r :: as) x s) : le q.hi r.hi := by
  refine Decidable.not_not.1 fun hl => ?_
  have hr' := hr.lt
  obtain ⟨d, d1, d2⟩ := Pos.exists_cut_above r.hi_isEnd hr' hl
  obtain ⟨a, ha, ham⟩ := h d.pt d.side ⟨q, List.mem_cons_self, lt_of_le_of_lt hs (lt_trans hr' d1), d2 _ q.hi_isEnd hl⟩
  rcases List.mem_cons.1 ha with rfl | ha
  · exact ham.2 (le_of_lt d1)
  · exact ham.1 (le_of_lt (d2 _ a.lo_isEnd (sepA a ha).lt))

theorem tail_cuts {r q : Range α} {as bs : List (Range α)} (hs : le q.hi r.hi) (sepA : ∀ a ∈ as, sep r a)
    (h : ∀ x s, memCL (r :: as) x s → memCL (q :: bs) x s) (x : α) (s : Nat) (hm : memCL as x s) : memCL bs x s := by
  obtain ⟨a, ha, ham⟩ := hm
  obtain ⟨b, hb, hbm⟩ := h x s ⟨a, List.mem_cons_of_mem _ ha, ham⟩
  rcases List.mem_cons.1 hb with rfl | hb
  · exact (lt_trans (lt_of_lt_of_le hbm.2 hs) (sepA a ha).lt (le_of_lt ham.1)).elim
  · exact ⟨b, hb, hbm⟩

theorem lists_unique (a0 : α) : ∀ (as bs : List (Range α)), Good as → Good bs →
    (∀ x s, memCL as x s ↔ memCL bs x s) → beqL as bs = true
  | [], [], _, _, _ => rfl
  | [], q :: bs, _, hB, h => by
    obtain ⟨x, s, hm⟩ := wf_has_cut q (good_cons.1 hB).1 a0
    obtain ⟨_, hr, _⟩ := (h x s).2 ⟨q, List.mem_cons_self, hm⟩
    cases hr
  | r :: as, [], hA, _, h => by
    obtain ⟨x, s, hm⟩ := wf_has_cut r (good_cons.1 hA).1 a0
    obtain ⟨_, hr, _⟩ := (h x s).1 ⟨r, List.mem_cons_self, hm⟩
    cases hr
  | r :: as, q :: bs, hA, hB, h => by
    -- the heads have equivalent ends, hence are `==`, and then the tails have the same cuts
    obtain ⟨hr, sepA, gA⟩ := good_cons.1 hA
    obtain ⟨hq, sepB, gB⟩ := good_cons.1 hB
    have l1 := not_starts_lower a0 hr hq sepB fun x s => (h x s).1
    have l2 := not_starts_lower a0 hq hr sepA fun x s => (h x s).2
    have u1 := not_ends_lower hr l1 sepA fun x s => (h x s).2
    have u2 := not_ends_lower hq l2 sepB fun x s => (h x s).1
    rw [beqL_cons, beq_of_ends r q hr.1 hq.1 ⟨l2, l1⟩ ⟨u2, u1⟩, lists_unique a0 as bs gA gB fun x s =>
      ⟨tail_cuts u1 sepA (fun x s => (h x s).1) x s, tail_cuts u2 sepB (fun x s => (h x s).2) x s⟩]
    rfl

theorem ends_of_beqL : ∀ (as bs : List (Range α)), beqL as bs = true →
    ∀ x ∈ as, ∃ r ∈ bs, eqv x.lo r.lo ∧ eqv x.hi r.hi
  | [], _, _, _, hx => nomatch hx
  | _ :: _, [], h, _, _ => by simp [beqL] at h
  | a :: as, b :: bs, h, x, hx => by
    rw [beqL_cons, Bool.and_eq_true] at h
    rcases List.mem_cons.1 hx with rfl | hx
    · exact ⟨b, .head _, ends_of_beq _ _ h.1⟩
    · obtain ⟨r, hr, he⟩ := ends_of_beqL as bs h.2 x hx
      exact ⟨r, .tail _ hr, he⟩

def toL : Spec α → List (Range α)
  | .empty => []
  | .any => [{}]
  | .range r => [r]
  | .union rs _ => rs

/-- What `==` means: every range of the one object has a partner in the other with equivalent ends
    (`AnySpecifier()` counting as the unbounded range).  Same cuts, same bounds up to `eqv`, same
    inclusiveness all follow from this. -/
theorem ends_of_beq (a b : Spec α) (h : a.beq b = true) : ∀ x ∈ toL a, ∃ r ∈ toL b, eqv x.lo r.lo ∧ eqv x.hi r.hi := by
  have rf : ∀ p : Pos α, eqv p p := fun p => ⟨le_refl p, le_refl p⟩
  have any : ∀ r : Range α, r.isAny = true → eqv ({} : Range α).lo r.lo ∧ eqv ({} : Range α).hi r.hi := fun r hr => by
    rw [((isAny_iff r).1 hr).1, ((isAny_iff r).1 hr).2]; exact ⟨rf _, rf _⟩
  intro x hx
  cases a <;> cases b <;> simp only [Spec.beq, isAny, Bool.false_eq_true] at h <;>
    simp only [toL, List.mem_singleton, List.not_mem_nil] at hx ⊢
  · exact ⟨x, hx, rf _, rf _⟩
  · subst hx; exact ⟨_, rfl, any _ h⟩
  · subst hx; exact ⟨_, rfl, (any _ h).1.symm, (any _ h).2.symm⟩
  · subst hx; exact ⟨_, rfl, Range.ends_of_beq _ _ h⟩
  · exact ends_of_beqL _ _ h x hx

theorem memC_toL (a : Spec α) (x : α) (s : Nat) : a.memC x s ↔ memCL (toL a) x s := by
  cases a with
  | empty => simp [memC, toL, memCL, mem]
  | any => exact ⟨fun _ => ⟨{}, List.mem_singleton.2 rfl, isAny_between rfl _⟩, fun _ => trivial⟩
  | range r => simp [memC_range, toL, memCL]
  | union rs t => exact memC_union rs t x s

theorem good_toL (a : Spec α) (h : Canon a) : Good (toL a) := by
  cases a with
  | empty => simp [toL, Good]
  | any => exact good_singleton _ WF_any
  | range r => exact good_singleton r h
  | union rs t => exact canon_union_good h

theorem canon_unique (a0 : α) (a b : Spec α) (ha : Canon a) (hb : Canon b)
    (h : ∀ x s, a.memC x s ↔ b.memC x s) : a.beq b = true := by
  have hl := lists_unique a0 (toL a) (toL b) (good_toL a ha) (good_toL b hb)
    (fun x s => by rw [← memC_toL, ← memC_toL]; exact h x s)
  simp only [beqL, Bool.and_eq_true, beq_iff_eq] at hl
  obtain ⟨hlen, hall⟩ := hl
  have isAny_of : ∀ r : Range α, (({} : Range α).beq r = true ∨ r.beq {} = true) → r.isAny = true := by
    intro r h
    rcases r with ⟨m, M, i, j, t⟩
    cases m <;> cases M <;> simp [Range.beq, Range.isAny] at h ⊢
  -- The lists of objects of different classes differ in length (0, 1, 1, at least 2); what is left
  -- is the same class on both sides, or `AnySpecifier()` against a range, then universal.
  cases a with
  | empty =>
    cases b with
    | empty => rfl
    | any => cases hlen
    | range _ => cases hlen
    | union ys _ => have := hb.1; simp only [toL, List.length_nil] at hlen; omega
  | any =>
    cases b with
    | empty => cases hlen
    | any => rfl
    | range q => exact isAny_of q (Or.inl (by simpa [toL] using hall))
    | union ys _ => have := hb.1; simp only [toL, List.length_cons, List.length_nil] at hlen; omega
  | range r =>
    cases b with
    | empty => cases hlen
    | any => exact isAny_of r (Or.inr (by simpa [toL] using hall))
    | range q => simpa [toL, Spec.beq] using hall
    | union ys _ => have := hb.1; simp only [toL, List.length_cons, List.length_nil] at hlen; omega
  | union xs _ =>
    have := ha.1
    cases b with
    | empty => simp only [toL, List.length_nil] at hlen; omega
    | any => simp only [toL, List.length_cons, List.length_nil] at hlen; omega
    | range _ => simp only [toL, List.length_cons, List.length_nil] at hlen; omega
    | union ys _ => simp only [Spec.beq, Bool.and_eq_true, beq_iff_eq]; exact ⟨hlen, hall⟩

end Spec
end DepLogic
