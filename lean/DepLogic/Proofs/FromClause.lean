import DepLogic.Proofs.VersionOrder
import DepLogic.Proofs.CutMap
/-
  `_from_pkg_specifier` as one equation (`fromClause_eq`): every clause names an interval
  (`clauseRange`); the parser returns it, for `!=` its complement `~interval`, with the clause
  cached.  Facts about every parsed clause are facts about `clauseRange`, carried over by what is
  known of `~` and by the `withText` lemmas.
-/
namespace DepLogic
open LinPre VOrd Spec

def clauseRange (c : Clause Ver) : Option (Range Ver) :=
  match c.op, c.wild with
  | .gt, _ => some { min := some c.ver, incMin := false }
  | .ge, _ => some { min := some c.ver, incMin := true }
  | .lt, _ => some { max := some c.ver, incMax := false }
  | .le, _ => some { max := some c.ver, incMax := true }
  | .compat, _ =>
    (c.ver.nextSeries (c.ver.release.length - 1)).map fun mx =>
      { min := some c.ver, max := some mx, incMin := true, incMax := false }
  -- `==` and `!=`: the point `[V, V]`, with `.*` the series of `V`
  | _, false => some { min := some c.ver, max := some c.ver, incMin := true, incMax := true }
  | _, true =>
    (c.ver.nextSeries c.ver.release.length).map fun mx =>
      { min := some (Ver.releaseVersion c.ver.epoch c.ver.release), max := some mx, incMin := true, incMax := false }

namespace Spec

/-- the same object with `c` as its cached clause (`simplified=`) -/
def withText (c : Clause Ver) : Spec Ver → Spec Ver
  | .range r => .range { r with text := some c }
  | .union rs _ => .union rs (some c)
  | s => s

theorem withText_mem (c : Clause Ver) (s : Spec Ver) (v : Ver) : (s.withText c).mem v ↔ s.mem v := by
  cases s <;> exact Iff.rfl

theorem withText_canon (c : Clause Ver) (s : Spec Ver) : Canon (s.withText c) ↔ Canon s := by
  cases s <;> exact Iff.rfl

theorem withText_allVers (P : Ver → Prop) (c : Clause Ver) (s : Spec Ver) (hs : s.AllVers P) (hc : P c.ver) :
    (s.withText c).AllVers P := by
  cases s with
  | range r => exact ⟨hs.1, hs.2.1, fun c' hc' => by cases hc'; exact hc⟩
  | union rs t => exact ⟨hs.1, fun c' hc' => by cases hc'; exact hc⟩
  | empty => trivial
  | any => trivial

end Spec

def ofClauseRange (c : Clause Ver) (r : Range Ver) : Spec Ver :=
  (if c.op = .ne then (Spec.range r).invert else .range r).withText c

theorem fromClause_eq (c : Clause Ver) : fromClause c = (clauseRange c).map (ofClauseRange c) := by
  rcases c with ⟨op, v, w⟩
  cases op <;> cases w <;> simp only [fromClause, clauseRange, Option.map_map, Option.map_some] <;> rfl

theorem fromClause_some (c : Clause Ver) (s : Spec Ver) (h : fromClause c = some s) :
    ∃ r, clauseRange c = some r ∧ s = ofClauseRange c r := by
  rw [fromClause_eq, Option.map_eq_some_iff] at h
  obtain ⟨r, hr, rfl⟩ := h
  exact ⟨r, hr, rfl⟩

inductive ClauseShape (c : Clause Ver) : Range Ver → Prop
  | lower (i : Bool) : ClauseShape c { min := some c.ver, incMin := i }
  | upper (j : Bool) : ClauseShape c { max := some c.ver, incMax := j }
  | point : ClauseShape c { min := some c.ver, max := some c.ver, incMin := true, incMax := true }
  | series (lo : Ver) (n : Nat) (mx : Ver)
      (hlo : lo = c.ver ∨ c.wild = true ∧ lo = Ver.releaseVersion c.ver.epoch c.ver.release)
      (hn : n ≤ c.ver.release.length) (hmx : c.ver.nextSeries n = some mx) :
      ClauseShape c { min := some lo, max := some mx, incMin := true, incMax := false }

theorem clauseRange_shape (c : Clause Ver) (r : Range Ver) (h : clauseRange c = some r) : ClauseShape c r := by
  revert h
  fun_cases clauseRange c <;> intro h
  case case1 => cases h; exact .lower false
  case case2 => cases h; exact .lower true
  case case3 => cases h; exact .upper false
  case case4 => cases h; exact .upper true
  case case5 =>
    obtain ⟨mx, hmx, rfl⟩ := Option.map_eq_some_iff.1 h
    exact .series _ _ mx (.inl rfl) (Nat.sub_le _ _) hmx
  case case6 => cases h; exact .point
  case case7 hw _ _ _ _ _ =>
    obtain ⟨mx, hmx, rfl⟩ := Option.map_eq_some_iff.1 h
    exact .series _ _ mx (.inr ⟨hw, rfl⟩) (Nat.le_refl _) hmx

theorem clauseRange_wf (c : Clause Ver) (r : Range Ver) (h : clauseRange c = some r) : r.WF := by
  cases clauseRange_shape c r h with
  | lower i => exact ⟨rfl, trivial⟩
  | upper j => exact ⟨rfl, trivial⟩
  | point => exact ⟨rfl, .inr ⟨⟨LinPre.le_refl _, LinPre.le_refl _⟩, rfl, rfl⟩⟩
  | series lo n mx hlo _ hmx =>
    refine ⟨rfl, .inl ?_⟩
    rcases hlo with rfl | ⟨_, rfl⟩
    · exact (lt_nextSeries _ mx n hmx).1
    · exact (lt_nextSeries _ mx n hmx).2

theorem clauseRange_allVers (P : Ver → Prop) (c : Clause Ver) (r : Range Ver) (h : clauseRange c = some r)
    (hv : P c.ver) (hrv : c.wild = true → P (Ver.releaseVersion c.ver.epoch c.ver.release))
    (hns : ∀ n mx, n ≤ c.ver.release.length → c.ver.nextSeries n = some mx → P mx) : r.AllVers P := by
  have none : ∀ {β : Type} {Q : β → Prop}, ∀ x, (none : Option β) = some x → Q x := fun _ hx => by cases hx
  have one : ∀ {x : Ver}, P x → ∀ m, some x = some m → P m := fun hx m hm => by cases hm; exact hx
  cases clauseRange_shape c r h with
  | lower i => exact ⟨one hv, none, none⟩
  | upper j => exact ⟨none, one hv, none⟩
  | point => exact ⟨one hv, one hv, none⟩
  | series lo n mx hlo hn hmx =>
    refine ⟨one ?_, one (hns n mx hn hmx), none⟩
    rcases hlo with rfl | ⟨hw, rfl⟩
    · exact hv
    · exact hrv hw

theorem clauseRange_text (c : Clause Ver) (r : Range Ver) (h : clauseRange c = some r) : r.text = none := by
  cases clauseRange_shape c r h <;> rfl

theorem clauseRange_ne (v : Ver) (w : Bool) (r : Range Ver) (h : clauseRange ⟨.ne, v, w⟩ = some r) :
    ∃ lo hi, r.min = some lo ∧ r.max = some hi := by
  cases w
  · cases h; exact ⟨_, _, rfl, rfl⟩
  · obtain ⟨mx, _, rfl⟩ := Option.map_eq_some_iff.1 h; exact ⟨_, _, rfl, rfl⟩

theorem fromClause_canon (c : Clause Ver) (s : Spec Ver) (h : fromClause c = some s) : Canon s := by
  obtain ⟨r, hr, rfl⟩ := fromClause_some c s h
  have hw : Canon (.range r) := clauseRange_wf c r hr
  rw [ofClauseRange, withText_canon]
  split
  · exact invert_canon _ hw
  · exact hw

theorem fromClause_mem (c : Clause Ver) (s : Spec Ver) (h : fromClause c = some s) :
    ∃ r, clauseRange c = some r ∧ ∀ v, s.mem v ↔ if c.op = .ne then ¬ r.mem v else r.mem v := by
  obtain ⟨r, hr, rfl⟩ := fromClause_some c s h
  refine ⟨r, hr, fun v => ?_⟩
  rw [ofClauseRange, withText_mem]
  by_cases hne : c.op = .ne
  · rw [if_pos hne, if_pos hne]; exact invert_mem (.range r) (clauseRange_wf c r hr) v
  · rw [if_neg hne, if_neg hne]; rfl

theorem ofClauseRange_allVers (P : Ver → Prop) (c : Clause Ver) (r : Range Ver) (hall : r.AllVers P) (hv : P c.ver) :
    (ofClauseRange c r).AllVers P := by
  refine withText_allVers P c _ ?_ hv
  split
  · exact allVers_of_boundsIn P _ (invert_boundsIn P _ (boundsIn_of_allVers P (.range r) hall))
  · exact hall

theorem fromClause_allVers (P : Ver → Prop) (c : Clause Ver) (s : Spec Ver) (h : fromClause c = some s)
    (hv : P c.ver) (hrv : c.wild = true → P (Ver.releaseVersion c.ver.epoch c.ver.release))
    (hns : ∀ n mx, n ≤ c.ver.release.length → c.ver.nextSeries n = some mx → P mx) : s.AllVers P := by
  obtain ⟨r, hr, rfl⟩ := fromClause_some c s h
  exact ofClauseRange_allVers P c r (clauseRange_allVers P c r hr hv hrv hns) hv

/-- the fold of `from_specifierset`, from any accumulated specifier -/
def fssFrom (acc : Spec Ver) (cs : List (Clause Ver)) : Option (Spec Ver) :=
  cs.foldl (fun acc c => acc.bind fun a => (fromClause c).map fun s => a.and s) (some acc)

theorem fromSpecifierSet_eq (cs : List (Clause Ver)) : fromSpecifierSet cs = fssFrom (.range {}) cs := rfl

theorem fssFrom_nil (acc : Spec Ver) : fssFrom acc [] = some acc := rfl

theorem fssFrom_cons (acc : Spec Ver) (c : Clause Ver) (cs : List (Clause Ver)) :
    fssFrom acc (c :: cs) = (fromClause c).bind fun s => fssFrom (acc.and s) cs := by
  cases h : fromClause c with
  | some s => simp only [fssFrom, List.foldl_cons, Option.bind_some, h, Option.map_some]
  | none =>
    simp only [fssFrom, List.foldl_cons, Option.bind_some, h, Option.map_none, Option.bind_none]
    induction cs with
    | nil => rfl
    | cons _ _ ih => simpa using ih

theorem fromSpecifierSet_one (c : Clause Ver) :
    fromSpecifierSet [c] = (fromClause c).map fun s => (Spec.range {}).and s := by
  rw [fromSpecifierSet_eq, fssFrom_cons]; cases fromClause c <;> rfl

theorem fssFrom_induction (P : Spec Ver → Prop)
    (hstep : ∀ a c s, P a → fromClause c = some s → P (a.and s)) :
    ∀ (cs : List (Clause Ver)) (acc s : Spec Ver), P acc → fssFrom acc cs = some s → P s
  | [], acc, s, hacc, h => by cases h; exact hacc
  | c :: rest, acc, s, hacc, h => by
    rw [fssFrom_cons, Option.bind_eq_some_iff] at h
    obtain ⟨sc, hc, h⟩ := h
    exact fssFrom_induction P hstep rest _ s (hstep acc c sc hacc hc) h

theorem fromSpecifierSet_canon (cs : List (Clause Ver)) (s : Spec Ver) (h : fromSpecifierSet cs = some s) : Canon s :=
  fssFrom_induction Canon (fun a c sc ha hc => and_canon a sc ha (fromClause_canon c sc hc)) cs (.range {}) s
    Range.WF_any h

end DepLogic
