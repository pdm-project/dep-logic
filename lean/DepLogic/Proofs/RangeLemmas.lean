import DepLogic.Proofs.Ends
/-
  Per-range lemmas: what `&` and `|` of two ranges are, and what `can_combine` means, all as
  comparisons of ends (Proofs/Ends.lean).  `IsAnd r s o` / `IsOr r s o` say which ends `r` has;
  exactness, non-degeneracy and separation of results are read off them.  `Picks`: each end of a
  result, bound and flag, is copied from an operand, which is what carries `ctorOk` over.
-/
namespace DepLogic
open LinPre
namespace Range
variable {α : Type}

def Picks (r s o : Range α) : Prop :=
  ((r.min = s.min ∧ r.incMin = s.incMin) ∨ (r.min = o.min ∧ r.incMin = o.incMin)) ∧
  ((r.max = s.max ∧ r.incMax = s.incMax) ∨ (r.max = o.max ∧ r.incMax = o.incMax))

theorem Picks.left (s o : Range α) : Picks s s o := ⟨.inl ⟨rfl, rfl⟩, .inl ⟨rfl, rfl⟩⟩
theorem Picks.right (s o : Range α) : Picks o s o := ⟨.inr ⟨rfl, rfl⟩, .inr ⟨rfl, rfl⟩⟩

theorem Picks.lo {r s o : Range α} (h : Picks r s o) : r.lo = s.lo ∨ r.lo = o.lo := by
  unfold Range.lo; grind [Picks]
theorem Picks.hi {r s o : Range α} (h : Picks r s o) : r.hi = s.hi ∨ r.hi = o.hi := by
  unfold Range.hi; grind [Picks]
theorem Picks.ctorOk {r s o : Range α} (h : Picks r s o) (hs : s.ctorOk = true) (ho : o.ctorOk = true) :
    r.ctorOk = true := by
  unfold Range.ctorOk at *; grind [Picks]

variable [LinPre α]

theorem Picks.WF {r s o : Range α} (h : Picks r s o) (hs : s.WF) (ho : o.WF) (hr : lt r.lo r.hi) : r.WF :=
  (WF_iff r).2 ⟨h.ctorOk hs.1 ho.1, hr⟩

theorem sep_trans (a b c : Range α) (hb : b.WF) (h1 : Spec.sep a b) (h2 : Spec.sep b c) :
    Spec.sep a c := by
  rw [sep_iff] at *
  exact lt_trans h1 (lt_trans hb.lt h2)

theorem sep_not_mem (a b : Range α) (h : Spec.sep a b) (v : α) : ¬ (a.mem v ∧ b.mem v) := by
  rw [sep_iff] at h
  simp only [mem_iff]
  exact fun ⟨⟨_, h1⟩, ⟨h2, _⟩⟩ => lt_trans h1 h (le_of_lt h2)

/-- `overlap` asks the operands to be non-degenerate: an operand contained in the other is returned as it is -/
structure IsAnd (r s o : Range α) : Prop where
  picks : Picks r s o
  lo_left : le s.lo r.lo
  lo_right : le o.lo r.lo
  hi_left : le r.hi s.hi
  hi_right : le r.hi o.hi
  overlap : lt s.lo s.hi → lt o.lo o.hi → lt r.lo r.hi
  origin : r = s ∨ r = o ∨ r.text = none

theorem and_spec (s o : Range α) :
    match s.and o with
    | none => le s.hi o.lo ∨ le o.hi s.lo
    | some r => IsAnd r s o := by
  -- range.py:195-227, branch by branch, each test read as a comparison of ends
  by_cases h1 : s.isSuperset o = true
  · -- `self ⊇ other`: the result is `other`, and the two inequalities asked for are the test itself
    simp only [Range.and, *]
    rw [isSuperset_iff] at h1
    exact ⟨Picks.right s o, h1.1, le_refl _, h1.2, le_refl _, fun _ h => h, .inr (.inl rfl)⟩
  by_cases h2 : o.isSuperset s = true
  · simp only [Range.and, *]
    rw [isSuperset_iff] at h2
    exact ⟨Picks.left s o, le_refl _, h2.1, le_refl _, h2.2, fun h _ => h, .inl rfl⟩
  -- Otherwise: empty if the one that starts lower ends at or below the other's start; if not, the lower
  -- end of the second and the upper end of the one that does not reach higher (`overlap`: the failed test).
  by_cases hl : s.allowsLower o = true
  · by_cases hg : s.isStrictlyLower o = true
    · simp only [Range.and, *]
      exact .inl ((isStrictlyLower_iff s o).1 hg)
    · have hg' := mt (isStrictlyLower_iff s o).2 hg
      have hl' := le_of_lt ((allowsLower_iff s o).1 hl)
      by_cases hh : s.allowsHigher o = true
      · simp only [Range.and, *]
        exact ⟨⟨.inr ⟨rfl, rfl⟩, .inr ⟨rfl, rfl⟩⟩, hl', le_refl _, le_of_lt ((allowsHigher_iff s o).1 hh), le_refl _,
          fun _ ho => ho, .inr (.inr rfl)⟩
      · simp only [Range.and, *]
        exact ⟨⟨.inr ⟨rfl, rfl⟩, .inl ⟨rfl, rfl⟩⟩, hl', le_refl _, le_refl _,
          Decidable.not_not.1 (mt (allowsHigher_iff s o).2 hh), fun _ _ => hg', .inr (.inr rfl)⟩
  · have hl' := Decidable.not_not.1 (mt (allowsLower_iff s o).2 hl)
    by_cases hg : o.isStrictlyLower s = true
    · simp only [Range.and, *]
      exact .inr ((isStrictlyLower_iff o s).1 hg)
    · have hg' := mt (isStrictlyLower_iff o s).2 hg
      by_cases hh : s.allowsHigher o = true
      · simp only [Range.and, *]
        exact ⟨⟨.inl ⟨rfl, rfl⟩, .inr ⟨rfl, rfl⟩⟩, le_refl _, hl', le_of_lt ((allowsHigher_iff s o).1 hh), le_refl _,
          fun _ _ => hg', .inr (.inr rfl)⟩
      · simp only [Range.and, *]
        exact ⟨⟨.inl ⟨rfl, rfl⟩, .inl ⟨rfl, rfl⟩⟩, le_refl _, hl', le_refl _,
          Decidable.not_not.1 (mt (allowsHigher_iff s o).2 hh), fun hs _ => hs, .inr (.inr rfl)⟩

theorem and_some {s o r : Range α} (h : s.and o = some r) : IsAnd r s o := by
  have := and_spec s o; rwa [h] at this

theorem and_none {s o : Range α} (h : s.and o = none) (v : α) : ¬ (s.mem v ∧ o.mem v) := by
  have h' := and_spec s o
  rw [h] at h'
  simp only [mem_iff]
  exact fun ⟨⟨s1, s2⟩, o1, o2⟩ => h'.elim (fun h => lt_of_lt_of_le s2 h (le_of_lt o1))
    (fun h => lt_of_lt_of_le o2 h (le_of_lt s1))

theorem IsAnd.mem {r s o : Range α} (h : IsAnd r s o) (v : α) : r.mem v ↔ (s.mem v ∧ o.mem v) := by
  simp only [mem_iff]
  rw [max_lt_iff h.picks.lo h.lo_left h.lo_right, lt_min_iff h.picks.hi h.hi_left h.hi_right]
  exact and_and_and_comm

theorem IsAnd.WF {r s o : Range α} (h : IsAnd r s o) (hs : s.WF) (ho : o.WF) : r.WF :=
  h.picks.WF hs ho (h.overlap hs.lt ho.lt)

theorem and_mem (s o : Range α) (v : α) :
    (match s.and o with | none => False | some r => r.mem v) ↔ (s.mem v ∧ o.mem v) := by
  cases hr : s.and o
  · exact (iff_false_intro (and_none hr v)).symm
  · exact (and_some hr).mem v

def Connected (s o : Range α) : Prop := le o.lo s.hi ∧ le s.lo o.hi

/-- `connected` asks the operands to be non-degenerate: a degenerate one inside the other need not touch it -/
structure IsOr (r s o : Range α) : Prop where
  picks : Picks r s o
  lo_left : le r.lo s.lo
  lo_right : le r.lo o.lo
  hi_left : le s.hi r.hi
  hi_right : le o.hi r.hi
  connected : lt s.lo s.hi → lt o.lo o.hi → Connected s o
  origin : r = s ∨ r = o ∨ r.text = none

theorem gap_iff (s o : Range α) : (s.isStrictlyLower o && !s.isAdjacentTo o) = true ↔ lt s.hi o.lo := by
  rw [Bool.and_eq_true, Bool.not_eq_true', ← Bool.not_eq_true, isStrictlyLower_iff, isAdjacentTo_iff]
  exact ⟨fun h hn => h.2 ⟨h.1, hn⟩, fun h => ⟨le_of_lt h, fun e => h e.2⟩⟩

theorem or_spec (s o : Range α) :
    match s.or o with
    | .two a b => ((a = s ∧ b = o) ∨ (a = o ∧ b = s)) ∧ lt a.hi b.lo
    | .one r => IsOr r s o := by
  -- range.py:229-263, branch by branch
  by_cases h1 : s.isSuperset o = true
  · -- `self ⊇ other`: the result is `self`; a non-degenerate `other` inside it touches it
    simp only [Range.or, *]
    rw [isSuperset_iff] at h1
    exact ⟨Picks.left s o, le_refl _, h1.1, le_refl _, h1.2, fun _ ho =>
      ⟨le_of_lt (lt_of_lt_of_le ho h1.2), le_of_lt (lt_of_le_of_lt h1.1 ho)⟩, .inl rfl⟩
  by_cases h2 : o.isSuperset s = true
  · simp only [Range.or, *]
    rw [isSuperset_iff] at h2
    exact ⟨Picks.right s o, h2.1, le_refl _, h2.2, le_refl _, fun hs _ =>
      ⟨le_of_lt (lt_of_le_of_lt h2.1 hs), le_of_lt (lt_of_lt_of_le hs h2.2)⟩, .inr (.inl rfl)⟩
  -- Otherwise: the pair, the one that starts lower first, if there is a gap after it; if not, its lower
  -- end and the upper end of the one that reaches higher (`connected`: no gap, and the first starts lower).
  by_cases hl : s.allowsLower o = true
  · have hl' := (allowsLower_iff s o).1 hl
    by_cases hg : (s.isStrictlyLower o && !s.isAdjacentTo o) = true
    · simp only [Range.or, *]
      exact ⟨.inl ⟨rfl, rfl⟩, (gap_iff s o).1 hg⟩
    · have hc : lt s.lo s.hi → lt o.lo o.hi → Connected s o := fun _ ho =>
        ⟨Decidable.not_not.1 (mt (gap_iff s o).2 hg), le_of_lt (lt_trans hl' ho)⟩
      by_cases hh : s.allowsHigher o = true
      · simp only [Range.or, *]
        exact ⟨⟨.inl ⟨rfl, rfl⟩, .inl ⟨rfl, rfl⟩⟩, le_refl _, le_of_lt hl', le_refl _,
          le_of_lt ((allowsHigher_iff s o).1 hh), hc, .inr (.inr rfl)⟩
      · simp only [Range.or, *]
        exact ⟨⟨.inl ⟨rfl, rfl⟩, .inr ⟨rfl, rfl⟩⟩, le_refl _, le_of_lt hl',
          Decidable.not_not.1 (mt (allowsHigher_iff s o).2 hh), le_refl _, hc, .inr (.inr rfl)⟩
  · have hl' := Decidable.not_not.1 (mt (allowsLower_iff s o).2 hl)
    by_cases hg : (o.isStrictlyLower s && !o.isAdjacentTo s) = true
    · simp only [Range.or, *]
      exact ⟨.inr ⟨rfl, rfl⟩, (gap_iff o s).1 hg⟩
    · have hc : lt s.lo s.hi → lt o.lo o.hi → Connected s o := fun hs _ =>
        ⟨le_of_lt (lt_of_le_of_lt hl' hs), Decidable.not_not.1 (mt (gap_iff o s).2 hg)⟩
      by_cases hh : s.allowsHigher o = true
      · simp only [Range.or, *]
        exact ⟨⟨.inr ⟨rfl, rfl⟩, .inl ⟨rfl, rfl⟩⟩, hl', le_refl _, le_refl _,
          le_of_lt ((allowsHigher_iff s o).1 hh), hc, .inr (.inr rfl)⟩
      · simp only [Range.or, *]
        exact ⟨⟨.inr ⟨rfl, rfl⟩, .inr ⟨rfl, rfl⟩⟩, hl', le_refl _,
          Decidable.not_not.1 (mt (allowsHigher_iff s o).2 hh), le_refl _, hc, .inr (.inr rfl)⟩

theorem or_one {s o r : Range α} (h : s.or o = .one r) : IsOr r s o := by
  have := or_spec s o; rwa [h] at this

theorem or_two {s o a b : Range α} (h : s.or o = .two a b) :
    ((a = s ∧ b = o) ∨ (a = o ∧ b = s)) ∧ Spec.sep a b := by
  have := or_spec s o
  rw [h] at this
  exact ⟨this.1, (sep_iff a b).2 this.2⟩

theorem not_mem_iff (b : Range α) (v : α) : ¬ b.mem v ↔ (lt (Pos.pt v) b.lo ∨ lt b.hi (Pos.pt v)) := by
  rw [mem_iff, Decidable.not_and_iff_not_or_not]
  exact or_congr ⟨fun h => fun h' => h (b.lo_pt v h'), fun h h' => h (le_of_lt h')⟩
    ⟨fun h => fun h' => h (b.pt_hi v h'), fun h h' => h (le_of_lt h')⟩

theorem IsOr.mem {r s o : Range α} (h : IsOr r s o) (hs : s.WF) (ho : o.WF) (v : α) :
    r.mem v ↔ (s.mem v ∨ o.mem v) := by
  obtain ⟨c1, c2⟩ := h.connected hs.lt ho.lt
  rw [mem_iff, min_lt_iff h.picks.lo h.lo_left h.lo_right, lt_max_iff h.picks.hi h.hi_left h.hi_right]
  constructor
  · -- a version in neither is beyond the far end of the one and before the start of the other,
    -- which are connected; or outside both on the same side
    rintro ⟨l, u⟩
    refine Decidable.by_contra fun hn => ?_
    rw [not_or, not_mem_iff, not_mem_iff] at hn
    rcases hn with ⟨a | a, b | b⟩
    · exact l.elim (· (le_of_lt a)) (· (le_of_lt b))
    · exact lt_of_lt_of_le a c2 (le_of_lt b)
    · exact lt_of_lt_of_le b c1 (le_of_lt a)
    · exact u.elim (· (le_of_lt a)) (· (le_of_lt b))
  · simp only [mem_iff]
    rintro (⟨l, u⟩ | ⟨l, u⟩)
    · exact ⟨.inl l, .inl u⟩
    · exact ⟨.inr l, .inr u⟩
theorem IsOr.WF {r s o : Range α} (h : IsOr r s o) (hs : s.WF) (ho : o.WF) : r.WF :=
  h.picks.WF hs ho (lt_of_le_of_lt h.lo_left (lt_of_lt_of_le hs.lt h.hi_left))

theorem IsOr.sep_left {r s o c : Range α} (h : IsOr r s o) (h1 : Spec.sep c s) (h2 : Spec.sep c o) : Spec.sep c r := by
  rw [sep_iff] at *
  rcases h.picks.lo with e | e <;> rw [e] <;> assumption

/-- The code asks `!strictly_lower || adjacent`, that is no gap, only after the one that starts lower;
    there is none on the other side because that one starts lower and the other is not degenerate. -/
theorem canCombine_iff (s o : Range α) (hs : s.WF) (ho : o.WF) :
    s.canCombine o = true ↔ Connected s o := by
  have e : ∀ a b : Bool, (!a || b) = !(a && !b) := by decide
  unfold canCombine Connected
  by_cases hl : s.allowsLower o = true
  · rw [if_pos hl, e, Bool.not_eq_true', ← Bool.not_eq_true, gap_iff]
    exact ⟨fun h => ⟨Decidable.not_not.1 h, le_of_lt (lt_trans ((allowsLower_iff s o).1 hl) ho.lt)⟩, fun h hn => hn h.1⟩
  · rw [if_neg hl, e, Bool.not_eq_true', ← Bool.not_eq_true, gap_iff]
    exact ⟨fun h => ⟨le_of_lt (lt_of_le_of_lt (Decidable.not_not.1 (mt (allowsLower_iff s o).2 hl)) hs.lt),
      Decidable.not_not.1 h⟩, fun h hn => hn h.2⟩

/-- the merge loop tests `r.can_combine(other)`, then computes `other | r` -/
theorem or_ne_two_of_canCombine {s o a b : Range α} (hs : s.WF) (ho : o.WF) (h : o.canCombine s = true) :
    s.or o ≠ .two a b := by
  intro hr
  obtain ⟨h1, h2⟩ := or_two hr
  rw [canCombine_iff o s ho hs] at h
  rw [sep_iff] at h2
  rcases h1 with ⟨rfl, rfl⟩ | ⟨rfl, rfl⟩
  · exact h2 h.2
  · exact h2 h.1

/-- the gap is after the one that starts lower: that one starts below where the other ends -/
theorem sep_of_not_canCombine (r o : Range α) (hr : r.WF) (ho : o.WF) (h : ¬ r.canCombine o = true) :
    (o.allowsLower r = true → Spec.sep o r) ∧ (¬ o.allowsLower r = true → Spec.sep r o) := by
  rw [canCombine_iff r o hr ho] at h
  rw [allowsLower_iff, sep_iff, sep_iff]
  exact ⟨fun hl => Decidable.by_contra fun hn => h ⟨le_of_lt (lt_trans hl hr.lt), Decidable.not_not.1 hn⟩,
    fun hl => Decidable.by_contra fun hn =>
      h ⟨Decidable.not_not.1 hn, le_of_lt (lt_of_le_of_lt (Decidable.not_not.1 hl) ho.lt)⟩⟩

/-- neither starts lower: they start together, and the one that ends later contains the other -/
theorem superset_of_not_lower (s o : Range α) (h1 : s.allowsLower o = false) (h2 : o.allowsLower s = false) :
    s.isSuperset o = true ∨ o.isSuperset s = true := by
  rw [← Bool.not_eq_true, allowsLower_iff] at h1 h2
  rw [isSuperset_iff, isSuperset_iff]
  exact (le_total o.hi s.hi).imp (fun h => ⟨Decidable.not_not.1 h2, h⟩) (fun h => ⟨Decidable.not_not.1 h1, h⟩)

theorem and_isNone (s o : Range α) : (s.and o).isNone =
    (!s.isSuperset o && !o.isSuperset s && (if s.allowsLower o then s.isStrictlyLower o else o.isStrictlyLower s)) := by
  simp only [Range.and]
  cases s.isSuperset o <;> cases o.isSuperset s <;> cases s.allowsLower o <;>
    cases s.isStrictlyLower o <;> cases o.isStrictlyLower s <;> rfl

theorem and_isNone_comm (s o : Range α) : (s.and o).isNone = (o.and s).isNone := by
  rw [and_isNone, and_isNone]
  cases hL : s.allowsLower o <;> cases hL' : o.allowsLower s
  · rcases superset_of_not_lower s o hL hL' with h | h <;> simp [h]
  · simp [Bool.and_comm]
  · simp [Bool.and_comm]
  · exact absurd (le_of_lt ((allowsLower_iff s o).1 hL)) ((allowsLower_iff o s).1 hL')

macro "three_ranges" s:ident o:ident c:ident : tactic => `(tactic|
  (rcases $s:ident with ⟨smin, smax, si, sa, st⟩
   rcases $o:ident with ⟨omin, omax, oi, oa, ot⟩
   rcases $c:ident with ⟨cmin, cmax, ci, ca, ct⟩
   cases smin <;> cases smax <;> cases omin <;> cases omax <;> cases cmin <;> cases cmax))

end Range
end DepLogic
