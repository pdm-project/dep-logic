import DepLogic.Model.SpecParse
/-
  Character level: printing a natural number / a final version and reading it back; from that, an
  operator in front of a printed release is read as that clause (`parseClauseL_relText`), and a
  text without `,`, `|`, blanks as one alternative of one clause (`parseAltsText_clean`).
-/
namespace DepLogic
namespace Lex
open SpecParse

/-- the fold inside `natOfDigits?`: core's `Nat.ofDigitChars 10`, which undoes `Nat.toDigits 10` -/
def digitsVal (s : List Char) : Nat := s.foldl (fun n c => n * 10 + (c.toNat - '0'.toNat)) 0

theorem digitsVal_toDigits (n : Nat) : digitsVal (Nat.toDigits 10 n) = n := by
  have h := Nat.ofDigitChars_ten_toDigits (n := n)
  simp only [Nat.ofDigitChars_eq_foldl, Nat.mul_comm 10] at h
  exact h

def digs (n : Nat) : List Char := Nat.toDigits 10 n

theorem digs_isDigit (n : Nat) : ∀ c ∈ digs n, c.isDigit = true :=
  fun _ hc => Nat.isDigit_of_mem_toDigits (by omega) (by omega) hc

theorem toString_toList (n : Nat) : (toString n).toList = digs n := by simp [digs]

theorem digs_ne_nil (n : Nat) : digs n ≠ [] := Nat.toDigits_ne_nil

theorem natOfDigits_digs (n : Nat) : natOfDigits? (digs n) = some n := by
  unfold natOfDigits?
  rw [if_neg (by simpa using digs_ne_nil n), if_pos (List.all_eq_true.2 (digs_isDigit n))]
  exact congrArg some (digitsVal_toDigits n)

/-- `int(str(n)) == n` -/
theorem natOfDigits_toString (n : Nat) : natOfDigits? (toString n).toList = some n :=
  toString_toList n ▸ natOfDigits_digs n

theorem intercalate_cons (sep : Char) (d : List Char) : ∀ ds : List (List Char),
    [sep].intercalate (d :: ds) = d ++ ds.flatMap (sep :: ·)
  | [] => by simp
  | d' :: ds => by rw [List.intercalate_cons_cons, intercalate_cons sep d' ds]; simp

/-- the model's `str.split(c)` is core's `List.splitOn`, whose results are never empty -/
theorem splitOnChar_eq (c : Char) : ∀ l : List Char, splitOnChar c l = l.splitOn c
  | [] => rfl
  | x :: xs => by
    rw [splitOnChar, splitOnChar_eq c xs, List.splitOn_cons_eq_if_modifyHead]
    cases h : xs.splitOn c with
    | nil => exact absurd h (List.splitOn_ne_nil c xs)
    | cons p ps => rfl

theorem splitOnChar_none (c : Char) (l : List Char) (h : c ∉ l) : splitOnChar c l = [l] :=
  (splitOnChar_eq c l).trans (List.splitOn_eq_singleton h)

theorem splitOnChar_intercalate (c : Char) (ds : List (List Char)) (hne : ds ≠ []) (hd : ∀ d ∈ ds, c ∉ d) :
    splitOnChar c ([c].intercalate ds) = ds := by
  rw [splitOnChar_eq, List.splitOn_intercalate c hd hne]

theorem not_mem_digs (n : Nat) (c : Char) (h : c.isDigit = false) : c ∉ digs n := by
  intro hc; rw [digs_isDigit n c hc] at h; cases h

theorem span_eq {α : Type} (p : α → Bool) (l : List α) : l.span p = (l.takeWhile p, l.dropWhile p) := by
  have loop : ∀ (l acc : List α), List.span.loop p l acc = (acc.reverse ++ l.takeWhile p, l.dropWhile p) := by
    intro l
    induction l with
    | nil => intro acc; simp [List.span.loop]
    | cons x xs ih => intro acc; cases h : p x <;> simp [List.span.loop, h, ih]
  simpa [List.span] using loop l []

theorem run_then {α : Type} (p : α → Bool) (n rest : List α) (hn : ∀ c ∈ n, p c = true)
    (hr : ∀ c ∈ rest.head?, p c = false) : (n ++ rest).takeWhile p = n ∧ (n ++ rest).dropWhile p = rest := by
  rw [List.takeWhile_append_of_pos hn, List.dropWhile_append_of_pos hn]
  cases rest with
  | nil => simp
  | cons c r => simp [hr c rfl]

theorem span_digs (n : Nat) : spanDigits (digs n) = (digs n, []) := by
  obtain ⟨h1, h2⟩ := run_then Char.isDigit (digs n) [] (digs_isDigit n) nofun
  rw [List.append_nil] at h1 h2
  rw [spanDigits, span_eq, h1, h2]

theorem parseItem_digs (n : Nat) : parseItem (digs n) = some (.rel n) := by
  unfold parseItem
  cases hl : digs n with
  | nil => exact absurd hl (digs_ne_nil n)
  | cons x xs =>
    have hx : x.isDigit = true := digs_isDigit n x (by rw [hl]; simp)
    have hp : x ≠ 'p' := by intro e; subst e; revert hx; decide
    have hdd : x ≠ 'd' := by intro e; subst e; revert hx; decide
    have hsp := span_digs n
    have hnat := natOfDigits_digs n
    rw [hl] at hsp hnat
    split
    · rename_i heq; simp only [List.cons.injEq] at heq; exact absurd heq.1 hp
    · rename_i heq; simp only [List.cons.injEq] at heq; exact absurd heq.1 hdd
    · simp only [hsp, hnat]

/-- `".".join(str(n) for n in release)` -/
def relText (rel : List Nat) : List Char := ['.'].intercalate (rel.map digs)

theorem not_mem_intercalate (sep c : Char) (hc : c ≠ sep) (ds : List (List Char)) (h : ∀ d ∈ ds, c ∉ d) :
    c ∉ [sep].intercalate ds := by
  cases ds with
  | nil => simp
  | cons d ds =>
    simp only [intercalate_cons, List.mem_append, List.mem_flatMap, List.mem_cons, not_or, not_exists, not_and]
    obtain ⟨hd, hds⟩ := List.forall_mem_cons.1 h
    exact ⟨hd, fun x hx => ⟨hc, hds x hx⟩⟩

theorem not_mem_relText (rel : List Nat) (c : Char) (h1 : c ≠ '.') (h2 : c.isDigit = false) : c ∉ relText rel :=
  not_mem_intercalate '.' c h1 _ (List.forall_mem_map.2 fun n _ => not_mem_digs n c h2)

theorem go_rels (e : Nat) : ∀ (ns acc : List Nat),
    parseVerL.go e acc none none none 0 (ns.map Item.rel) =
      if (acc.reverse ++ ns).isEmpty then none else some { epoch := e, release := acc.reverse ++ ns }
  | [], acc => by
    simp only [List.map_nil, parseVerL.go, List.append_nil, List.isEmpty_reverse]
  | n :: ns, acc => by
    simp only [List.map_cons, parseVerL.go, beq_self_eq_true, if_true]
    rw [go_rels e ns (n :: acc)]
    simp

theorem parseVerL_relText (rel : List Nat) (h : rel ≠ []) : parseVerL (relText rel) = some { release := rel } := by
  unfold parseVerL
  have hbang : splitOnChar '!' (relText rel) = [relText rel] :=
    splitOnChar_none '!' _ (not_mem_relText rel '!' (by decide) (by decide))
  have hdots : splitOnChar '.' (relText rel) = rel.map digs :=
    splitOnChar_intercalate '.' _ (by simpa using h) (List.forall_mem_map.2 fun n _ => not_mem_digs n '.' (by decide))
  simp only [hbang, hdots, List.map_map]
  have hitems : (rel.map (parseItem ∘ digs)) = rel.map (fun n => some (Item.rel n)) := by
    apply List.map_congr_left; intro n _; exact parseItem_digs n
  rw [hitems]
  have hany : (rel.map (fun n => some (Item.rel n))).any Option.isNone = false := by
    simp [List.any_eq_false]
  have hfm : (rel.map (fun n => some (Item.rel n))).filterMap id = rel.map Item.rel := by
    simp [List.filterMap_map]
  simp only [hany, Bool.false_eq_true, if_false, hfm]
  rw [go_rels 0 rel []]
  simp [h]

theorem relText_head (rel : List Nat) (h : rel ≠ []) : ∃ x xs, relText rel = x :: xs ∧ x.isDigit = true := by
  obtain ⟨n, ns, rfl⟩ := List.exists_cons_of_ne_nil h
  obtain ⟨x, xs, hx⟩ := List.exists_cons_of_ne_nil (digs_ne_nil n)
  exact ⟨x, _, by rw [relText, List.map_cons, intercalate_cons, hx]; rfl, digs_isDigit n x (by simp [hx])⟩

theorem splitOp_op (op : COp) (x : Char) (xs : List Char) (hx : x ≠ '=') :
    splitOp (op.str.toList ++ x :: xs) = (some op, x :: xs) := by
  cases op <;> simp [COp.str, splitOp, hx]

theorem stripWild_plain (rest : List Char) (h : '*' ∉ rest) : stripWild rest = (rest, false) := by
  unfold stripWild
  split
  · rename_i heq
    exact absurd (List.mem_reverse.1 (heq ▸ List.mem_cons_self)) h
  · rfl

theorem stripWild_wild (body : List Char) : stripWild (body ++ ['.', '*']) = (body, true) := by
  simp [stripWild]

theorem parseClauseL_relText (op : COp) (rel : List Nat) (h : rel ≠ []) (wild : Bool) :
    parseClauseL (op.str.toList ++ (relText rel ++ (if wild then ['.', '*'] else []))) =
      if wild = true ∧ ¬ (op = .eq ∨ op = .ne) then none else some ⟨op, { release := rel }, wild⟩ := by
  obtain ⟨x, xs, hx, hxd⟩ := relText_head rel h
  have hxe : x ≠ '=' := by intro e; subst e; revert hxd; decide
  have hparse := parseVerL_relText rel h
  unfold parseClauseL
  have hsplit : splitOp (op.str.toList ++ (relText rel ++ (if wild then ['.', '*'] else []))) =
      (some op, relText rel ++ (if wild then ['.', '*'] else [])) := by
    rw [hx, List.cons_append]; exact splitOp_op op x _ hxe
  rw [hsplit]
  cases wild with
  | false =>
    simp only [Bool.false_eq_true, if_false, List.append_nil]
    rw [stripWild_plain _ (not_mem_relText rel '*' (by decide) (by decide))]
    simp [hparse]
  | true =>
    simp only [if_true]
    rw [stripWild_wild]
    cases op <;> simp [hparse, Ver.isFinal]

theorem parseClauseL_final (op : COp) (rel : List Nat) (h : rel ≠ []) (wild : Bool)
    (hw : wild = true → op = .eq ∨ op = .ne) :
    parseClauseL (op.str.toList ++ (relText rel ++ (if wild then ['.', '*'] else []))) =
      some ⟨op, { release := rel }, wild⟩ := by
  rw [parseClauseL_relText op rel h wild, if_neg fun hn => hn.2 (hw hn.1)]

theorem splitOnBars_none : ∀ l : List Char, '|' ∉ l → splitOnBars l = [l]
  | [], _ => rfl
  | x :: xs, h => by
    simp only [List.mem_cons, not_or] at h
    have ih := splitOnBars_none xs h.2
    unfold splitOnBars
    split
    · rename_i heq; cases heq
    · rename_i heq; cases heq; exact absurd rfl h.1
    · rename_i heq; cases heq; simp [ih]

theorem dropWhile_none (l : List Char) (h : ' ' ∉ l) : l.dropWhile (· == ' ') = l :=
  List.dropWhile_beq_eq_self_of_head?_ne fun e => h (List.mem_of_head? e)

theorem trimL_none (l : List Char) (h : ' ' ∉ l) : trimL l = l := by
  unfold trimL
  rw [dropWhile_none l h, dropWhile_none l.reverse (by simpa using h), List.reverse_reverse]

/-- nothing the two readers of a specifier text split or strip at -/
def _root_.DepLogic.C11.Clean (l : List Char) : Prop := ',' ∉ l ∧ '|' ∉ l ∧ ' ' ∉ l

open C11 (Clean)

theorem _root_.DepLogic.C11.Clean.append {a b : List Char} (ha : C11.Clean a) (hb : C11.Clean b) : C11.Clean (a ++ b) := by
  simp only [C11.Clean, List.mem_append, not_or]
  exact ⟨⟨ha.1, hb.1⟩, ⟨ha.2.1, hb.2.1⟩, ⟨ha.2.2, hb.2.2⟩⟩

theorem parseAltsText_clean (s : String) (hc : Clean s.toList) (hne : s.toList ≠ []) (hemp : s.toList ≠ "<empty>".toList) :
    parseAltsText s = (parseClauseL s.toList).map fun c => [.clauses [c]] := by
  simp only [parseAltsText]
  rw [splitOnBars_none _ hc.2.1]
  simp only [List.map_cons, List.map_nil, beq_false_of_ne hemp, Bool.false_eq_true, if_false, trimL_none _ hc.2.2,
    List.isEmpty_eq_false_iff.2 hne, splitOnChar_none ',' _ hc.1]
  cases parseClauseL s.toList <;> simp

theorem relText_clean (rel : List Nat) (suffix : List Char) (hs : Clean suffix) : Clean (relText rel ++ suffix) :=
  C11.Clean.append ⟨not_mem_relText rel ',' (by decide) (by decide), not_mem_relText rel '|' (by decide) (by decide),
    not_mem_relText rel ' ' (by decide) (by decide)⟩ hs

theorem toList_relString (rel : List Nat) : (".".intercalate (rel.map toString)).toList = relText rel := by
  rw [String.toList_intercalate]
  simp only [relText, List.map_map]
  congr 1
  exact List.map_congr_left fun n _ => toString_toList n

theorem toList_str_final (v : Ver) (hf : v.isFinal = true) (he : v.epoch = 0) : v.str.toList = relText v.release := by
  rcases v with ⟨e, r, pre, post, dev⟩
  simp only at he; subst he
  cases pre <;> cases post <;> cases dev <;> simp [Ver.isFinal] at hf
  simp only [Ver.str, bne_self_eq_false, Bool.false_eq_true, if_false, String.empty_append, String.append_empty]
  exact toList_relString r

end Lex
end DepLogic
