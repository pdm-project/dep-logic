import DepLogic.Properties.C06
import DepLogic.Properties.C01
/-
  Cached clause texts stay right.

  `RangeSpecifier.simplified` / `UnionSpecifier.simplified` remember the clause an object was
  parsed from; `__str__` trusts it.  `TextInv s`: every cached clause in `s` parses to (an object
  `==` to) the object that carries it.  The parser establishes it (`fromClause_textInv`) and
  `&`, `|`, `~` preserve it (`and_textInv`, `or_textInv`, `invert_textInv`): their results consist
  of operand ranges returned unchanged and of fresh ranges without a cached text.
  With it C06's `TextOk` hypotheses hold of everything reachable (`C06.reach_roundtrips`).
-/
namespace DepLogic
namespace Spec
open LinPre C06

def TextInv : Spec Ver → Prop
  | .range r => TextOk r
  | .union rs t => (∀ r ∈ rs, TextOk r) ∧ TextOkU rs t
  | _ => True

theorem textOk_of_none (r : Range Ver) (h : r.text = none) : TextOk r := by
  intro c hc; rw [h] at hc; cases hc

theorem textOkU_none (rs : List (Range Ver)) : TextOkU rs none := by
  intro c hc; cases hc

theorem _root_.DepLogic.Range.and_ok {s o r : Range Ver} (hs : TextOk s) (ho : TextOk o) (h : s.and o = some r) : TextOk r := by
  rcases (Range.and_some h).origin with rfl | rfl | e
  · exact hs
  · exact ho
  · exact textOk_of_none _ e

theorem _root_.DepLogic.Range.or_one_ok {s o r : Range Ver} (hs : TextOk s) (ho : TextOk o) (h : s.or o = .one r) : TextOk r := by
  rcases (Range.or_one h).origin with rfl | rfl | e
  · exact hs
  · exact ho
  · exact textOk_of_none _ e

theorem _root_.DepLogic.Range.or_two_ok {s o a b : Range Ver} (hs : TextOk s) (ho : TextOk o) (h : s.or o = .two a b) :
    TextOk a ∧ TextOk b := by
  rcases (Range.or_two h).1 with ⟨rfl, rfl⟩ | ⟨rfl, rfl⟩
  · exact ⟨hs, ho⟩
  · exact ⟨ho, hs⟩

theorem andProduct_ok (xs ys : List (Range Ver)) (hx : ∀ r ∈ xs, TextOk r) (hy : ∀ r ∈ ys, TextOk r) :
    ∀ r ∈ andProduct xs ys, TextOk r := by
  intro r hr
  obtain ⟨a, ha, b, hb, hab⟩ := mem_andProduct.1 hr
  exact Range.and_ok (hx a ha) (hy b hb) hab

theorem fromRanges_ok (rs : List (Range Ver)) (h : ∀ r ∈ rs, TextOk r) : TextInv (fromRanges rs) := by
  match rs, h with
  | [], _ => trivial
  | [r], h => exact h r (by simp)
  | a :: b :: rest, h => exact ⟨h, textOkU_none _⟩

theorem and_textInv (a b : Spec Ver) (ha : TextInv a) (hb : TextInv b) : TextInv (a.and b) := by
  fun_cases Spec.and a b with
  | case1 | case3 | case5 | case9 => trivial
  | case2 | case7 => exact hb
  | case4 | case10 | case11 => exact ha
  | case6 r o x h => exact Range.and_ok ha hb h
  | case8 r ys yt => exact fromRanges_ok _ (andProduct_ok ys [r] hb.1 (List.forall_mem_singleton.2 ha))
  | case12 xs xt o => exact fromRanges_ok _ (andProduct_ok xs [o] ha.1 (List.forall_mem_singleton.2 hb))
  | case13 => exact fromRanges_ok _ (andProduct_ok _ _ ha.1 hb.1)

theorem orLoop_ok (other : Range Ver) (rs res : List (Range Ver)) (ho : TextOk other) (hrs : ∀ r ∈ rs, TextOk r)
    (h : orLoop other rs = some res) : ∀ r ∈ res, TextOk r := by
  fun_induction orLoop other rs generalizing res with
  | case1 => cases h; exact List.forall_mem_singleton.2 ho
  | case2 o f tail _ x hx ih =>
    -- combined with `f`: the loop goes on with what `|` returned
    rw [List.forall_mem_cons] at hrs
    exact ih res (Range.or_one_ok ho hrs.1 hx) hrs.2 h
  | case3 => cases h
  | case4 => cases h; exact List.forall_mem_cons.2 ⟨ho, hrs⟩
  | case5 o f tail _ _ ih =>
    rw [List.forall_mem_cons] at hrs
    obtain ⟨res', hres', rfl⟩ := Option.map_eq_some_iff.1 h
    exact List.forall_mem_cons.2 ⟨hrs.1, ih res' ho hrs.2 hres'⟩

theorem unionOrRange_ok (xs : List (Range Ver)) (o : Range Ver) (hx : ∀ r ∈ xs, TextOk r) (ho : TextOk o) (res : Spec Ver)
    (h : unionOrRange xs o = some res) : TextInv res := by
  revert h
  fun_cases unionOrRange xs o <;> intro h
  · cases h; exact ho
  · obtain ⟨l, hl, rfl⟩ := Option.map_eq_some_iff.1 h
    exact fromRanges_ok _ (orLoop_ok o xs l ho hx hl)

theorem orRange_ok (s : Spec Ver) (o : Range Ver) (hs : TextInv s) (ho : TextOk o) (res : Spec Ver)
    (h : orRange s o = some res) : TextInv res := by
  revert h
  fun_cases orRange s o <;> intro h
  case case1 => cases h; exact ho
  case case2 => cases h; trivial
  case case3 a r hr => cases h; exact Range.or_one_ok hs ho hr
  case case4 a x y hxy =>
    have hor := Range.or_two_ok hs ho hxy
    cases h
    exact ⟨List.forall_mem_cons.2 ⟨hor.1, List.forall_mem_singleton.2 hor.2⟩, textOkU_none _⟩
  case case5 xs t => exact unionOrRange_ok xs o hs.1 ho res h

theorem orFold_ok (s : Spec Ver) (rs : List (Range Ver)) (res : Spec Ver) (hs : TextInv s) (hrs : ∀ r ∈ rs, TextOk r)
    (h : orFold s rs = some res) : TextInv res := by
  fun_induction orFold s rs generalizing res with
  | case1 => cases h; exact hs
  | case2 s r rest ih =>
    obtain ⟨s', hs', hres⟩ := Option.bind_eq_some_iff.1 h
    rw [List.forall_mem_cons] at hrs
    exact ih s' res (orRange_ok s r hs hrs.1 s' hs') hrs.2 hres

theorem or_textInv : ∀ (a b res : Spec Ver), TextInv a → TextInv b → a.or b = some res → TextInv res
  | .empty, _, _, _, hb, h => by cases h; exact hb
  | .any, _, _, _, _, h => by cases h; trivial
  | .range _, .empty, _, ha, _, h => by cases h; exact ha
  | .range _, .any, _, _, _, h => by cases h; trivial
  | .range x, .range y, res, ha, hb, h => orRange_ok (.range x) y ha hb res h
  | .range x, .union ys _, res, ha, hb, h => unionOrRange_ok ys x hb.1 ha res h
  | .union _ _, .empty, _, ha, _, h => by cases h; exact ha
  | .union _ _, .any, _, _, _, h => by cases h; trivial
  | .union xs _, .range o, res, ha, hb, h => unionOrRange_ok xs o ha.1 hb res h
  | .union xs xt, .union ys _, res, ha, hb, h => orFold_ok (.union xs xt) ys res ha hb.1 h

theorem gaps_fresh (l : List (Range Ver)) : ∀ x ∈ gaps l, x.text = none := by
  fun_induction gaps l with
  | case1 => exact fun _ h => nomatch h
  | case2 => exact fun _ h => nomatch h
  | case3 => exact List.forall_mem_singleton.2 rfl
  | case4 a b rest ih => exact List.forall_mem_cons.2 ⟨rfl, ih⟩

theorem invertUnion_textInv (rs : List (Range Ver)) : TextInv (invertUnion rs) := by
  apply fromRanges_ok
  intro r hr
  apply textOk_of_none
  rcases List.mem_append.1 hr with hr | hr
  · cases rs with
    | nil => cases hr
    | cons f _ =>
      simp only [firstPiece] at hr
      split at hr
      · cases hr
      · cases List.mem_singleton.1 hr; rfl
  · exact gaps_fresh rs r hr

theorem invert_textInv (a : Spec Ver) : TextInv a.invert := by
  cases a with
  | empty => trivial
  | any => trivial
  | range r => rw [Spec.invert, invertRange_eq]; exact invertUnion_textInv [r]
  | union rs t => exact invertUnion_textInv rs

/-- the parser caches the clause it has just parsed: the clause parses to this very object, and
    the ranges under a cached `!=` are fresh pieces of a complement -/
theorem fromClause_textInv (c : Clause Ver) (s : Spec Ver) (h : fromClause c = some s) : TextInv s := by
  obtain ⟨r, _, rfl⟩ := fromClause_some c s h
  unfold ofClauseRange at h ⊢
  by_cases hne : c.op = .ne
  · rw [if_pos hne] at h ⊢
    have hx := invert_textInv (.range r)
    generalize (Spec.range r).invert = x at h hx
    cases x with
    | empty => trivial
    | any => trivial
    | range x => intro c' hc'; cases hc'; exact ⟨_, h, Range.beq_refl _⟩
    | union xs t => exact ⟨hx.1, fun c' hc' => by cases hc'; exact ⟨xs, some c, h, Spec.beq_refl _⟩⟩
  · rw [if_neg hne] at h ⊢
    intro c' hc'; cases hc'; exact ⟨_, h, Range.beq_refl _⟩

theorem fromSpecifierSet_textInv (cs : List (Clause Ver)) (s : Spec Ver) (h : fromSpecifierSet cs = some s) : TextInv s :=
  fssFrom_induction TextInv (fun a c sc ha hc => and_textInv a sc ha (fromClause_textInv c sc hc)) cs (.range {}) s
    (textOk_of_none {} rfl) h

theorem noD4a_of_allVers (r : Range Ver) (h : r.AllVers FinalV) : NoD4a r :=
  fun _ _ mx _ hmax _ => (h.2.1 mx hmax).post

end Spec

namespace C06
open Spec

/-- kept by `&`, `|`, `~`; what C06's round trip and C04's `contains_exact` ask of an object -/
structure Nice (s : Spec Ver) : Prop where
  canon : Canon s
  text : TextInv s
  finalBounds : BoundsIn FinalV s

theorem nice_empty : Nice .empty := ⟨trivial, trivial, boundsIn_empty _⟩
theorem nice_any : Nice .any := ⟨trivial, trivial, boundsIn_any _⟩
theorem nice_anyRange : Nice (.range ({} : Range Ver)) :=
  ⟨Range.WF_any, textOk_of_none _ rfl,
   boundsIn_of_allVers _ _ (by simp [Spec.AllVers, Range.AllVers])⟩

theorem nice_and (a b : Spec Ver) (ha : Nice a) (hb : Nice b) : Nice (a.and b) :=
  ⟨and_canon _ _ ha.canon hb.canon, and_textInv _ _ ha.text hb.text, and_boundsIn _ _ _ ha.finalBounds hb.finalBounds⟩

theorem nice_or (a b r : Spec Ver) (ha : Nice a) (hb : Nice b) (h : a.or b = some r) : Nice r :=
  ⟨(or_some ha.canon hb.canon h).1, or_textInv _ _ _ ha.text hb.text h, or_boundsIn _ _ _ _ ha.finalBounds hb.finalBounds h⟩

theorem nice_invert (a : Spec Ver) (ha : Nice a) : Nice a.invert :=
  ⟨invert_canon _ ha.canon, invert_textInv a, invert_boundsIn _ _ ha.finalBounds⟩

theorem nice_roundtrips (s : Spec Ver) (nice : Nice s) : RoundTrips s := by
  apply roundtrips s nice.canon
  · intro r hr
    rcases hr with rfl | ⟨rs, t, rfl, hrm⟩
    · exact ⟨nice.text, noD4a_of_allVers r (allVers_of_boundsIn FinalV _ nice.finalBounds)⟩
    · exact ⟨nice.text.1 r hrm, noD4a_of_allVers r ((allVers_of_boundsIn FinalV _ nice.finalBounds).1 r hrm)⟩
  · intro rs t hs
    subst hs
    exact nice.text.2

/-- **C06 for everything reachable**: objects built by `&`, `|`, `~` from nice leaves (what the parser
    yields from clauses over plain final releases) render to text that denotes an `==` object -/
theorem reach_roundtrips {Leaf : Spec Ver → Prop} (hleaf : ∀ s, Leaf s → Nice s) {s : Spec Ver}
    (h : C01.Reach Leaf s) : RoundTrips s := by
  apply nice_roundtrips
  induction h with
  | leaf hl => exact hleaf _ hl
  | and _ _ iha ihb => exact nice_and _ _ iha ihb
  | or _ _ hr iha ihb => exact nice_or _ _ _ iha ihb hr
  | invert _ ih => exact nice_invert _ ih

end C06
end DepLogic
