import DepLogic.Model.Pep440
import DepLogic.Proofs.Ends
/-
  The PEP 440 order read as sequences: epoch, then the releases as zero-padded infinite sequences,
  then the pre/post/dev suffix (`lt_iff`); between final versions it is the order of the ONE
  sequence `epoch :: release` (`lt_final`, `eqv_final_iff`).  There `==V.*` (prefix match) is the
  interval `[V.0, V+1.0)` (`wild_mem`), and `~=V` is `>=V` together with `==P.*`, `P` being `V`
  without its last component (`compat_mem`); C04's leaf lemma uses both.
-/
namespace DepLogic
namespace VOrd
open LinPre

def nth0 (l : List Nat) (i : Nat) : Nat := l.getD i 0

@[simp] theorem nth0_nil (i : Nat) : nth0 [] i = 0 := by simp [nth0]
@[simp] theorem nth0_cons_zero (a : Nat) (l : List Nat) : nth0 (a :: l) 0 = a := by simp [nth0]
@[simp] theorem nth0_cons_succ (a : Nat) (l : List Nat) (i : Nat) : nth0 (a :: l) (i + 1) = nth0 l i := by simp [nth0]

theorem nth0_succ (l : List Nat) (i : Nat) : nth0 l (i + 1) = nth0 l.tail i := by
  cases l <;> simp [nth0]

theorem nth0_append_left (a b : List Nat) (i : Nat) (h : i < a.length) : nth0 (a ++ b) i = nth0 a i := by
  simp [nth0, List.getD_eq_getElem?_getD, List.getElem?_append_left h]

theorem nth0_append_at (a : List Nat) (x : Nat) : nth0 (a ++ [x]) a.length = x := by
  simp [nth0, List.getD_eq_getElem?_getD]

theorem nth0_beyond (a : List Nat) (i : Nat) (h : a.length ≤ i) : nth0 a i = 0 := by
  simp [nth0, List.getD_eq_getElem?_getD, List.getElem?_eq_none h]

theorem nth0_append_replicate_zero (r : List Nat) (k i : Nat) : nth0 (r ++ List.replicate k 0) i = nth0 r i := by
  unfold nth0
  by_cases h : i < r.length
  · simp [List.getD_eq_getElem?_getD, List.getElem?_append_left h]
  · have h' : r.length ≤ i := Nat.le_of_not_lt h
    simp only [List.getD_eq_getElem?_getD, List.getElem?_append_right h', List.getElem?_replicate]
    rw [List.getElem?_eq_none h']
    split <;> rfl

theorem nth0_append_zero (l : List Nat) (i : Nat) : nth0 (l ++ [0]) i = nth0 l i :=
  nth0_append_replicate_zero l 1 i

theorem nth0_of_drop_all_zero (l : List Nat) (k : Nat) (h : (l.drop k).all (· == 0) = true) (i : Nat) (hi : k ≤ i) :
    nth0 l i = 0 := by
  unfold nth0
  by_cases hl : i < l.length
  · rw [List.getD_eq_getElem?_getD, List.getElem?_eq_getElem hl]
    simp only [Option.getD_some]
    rw [List.all_eq_true] at h
    have hm : l[i] ∈ l.drop k := by
      rw [List.mem_drop_iff_getElem]
      exact ⟨i - k, by omega, by simp [Nat.add_sub_cancel' hi]⟩
    simpa using h _ hm
  · rw [List.getD_eq_getElem?_getD, List.getElem?_eq_none (Nat.le_of_not_lt hl)]; rfl

theorem nth0_take (l : List Nat) (n i : Nat) (h : i < n) : nth0 (l.take n) i = nth0 l i := by
  unfold nth0
  simp [List.getD_eq_getElem?_getD, h]

theorem nth0_drop (l : List Nat) (k i : Nat) : nth0 (l.drop k) i = nth0 l (k + i) := by
  simp [nth0, List.getD_eq_getElem?_getD]

theorem nth0_padZeros (l : List Nat) (n i : Nat) : nth0 (padZeros l n) i = nth0 l i :=
  nth0_append_replicate_zero l _ i

def seqLt (x y : List Nat) : Prop := ∃ k, (∀ i, i < k → nth0 x i = nth0 y i) ∧ nth0 x k < nth0 y k

theorem seqLt_uncons (x y : List Nat) :
    seqLt x y ↔ nth0 x 0 < nth0 y 0 ∨ (nth0 x 0 = nth0 y 0 ∧ seqLt x.tail y.tail) := by
  constructor
  · rintro ⟨k, h1, h2⟩
    cases k with
    | zero => exact .inl h2
    | succ k =>
      refine .inr ⟨h1 0 (by omega), k, fun i hi => ?_, ?_⟩
      · rw [← nth0_succ, ← nth0_succ]; exact h1 (i + 1) (by omega)
      · rw [← nth0_succ, ← nth0_succ]; exact h2
  · rintro (h | ⟨h0, k, h1, h2⟩)
    · exact ⟨0, nofun, h⟩
    · refine ⟨k + 1, fun i hi => ?_, by rw [nth0_succ, nth0_succ]; exact h2⟩
      cases i with
      | zero => exact h0
      | succ i => rw [nth0_succ, nth0_succ]; exact h1 i (by omega)

theorem seqLt_nil_right (x : List Nat) : ¬ seqLt x [] := by
  rintro ⟨k, _, h⟩; simp at h

theorem seqLt_cons (a b : Nat) (as bs : List Nat) :
    seqLt (a :: as) (b :: bs) ↔ a < b ∨ (a = b ∧ seqLt as bs) := by
  rw [seqLt_uncons]; simp

def Stripped (l : List Nat) : Prop := l.getLast? ≠ some 0

theorem Stripped_tail (a : Nat) (l : List Nat) (h : Stripped (a :: l)) : Stripped l := by
  unfold Stripped at h ⊢
  cases l with
  | nil => simp
  | cons b bs => simpa [List.getLast?_cons_cons] using h

theorem Stripped_first_nonzero : ∀ (y : List Nat), y ≠ [] → Stripped y → ∃ k, (∀ i, i < k → nth0 y i = 0) ∧ 0 < nth0 y k := by
  intro y
  induction y with
  | nil => intro h; exact absurd rfl h
  | cons b bs ih =>
    intro _ hs
    by_cases hb : b = 0
    · subst hb
      have hbs : bs ≠ [] := by
        rintro rfl
        simp [Stripped] at hs
      obtain ⟨k, h1, h2⟩ := ih hbs (Stripped_tail 0 bs hs)
      refine ⟨k + 1, ?_, by simpa using h2⟩
      intro i hi
      cases i with
      | zero => simp
      | succ i => simpa using h1 i (by omega)
    · exact ⟨0, by simp, by simp; omega⟩

theorem lex_iff_seqLt : ∀ (x y : List Nat), Stripped x → Stripped y → (x < y ↔ seqLt x y) := by
  intro x
  induction x with
  | nil =>
    intro y _ hy
    cases y with
    | nil => simp [seqLt]
    | cons b bs =>
      simp only [List.nil_lt_cons, true_iff]
      obtain ⟨k, h1, h2⟩ := Stripped_first_nonzero (b :: bs) (by simp) hy
      exact ⟨k, fun i hi => by simp [h1 i hi], by simpa using h2⟩
  | cons a as ih =>
    intro y hx hy
    cases y with
    | nil =>
      exact iff_of_false (List.not_lt_nil _) (seqLt_nil_right _)
    | cons b bs =>
      rw [List.cons_lt_cons_iff, seqLt_cons]
      rw [ih bs (Stripped_tail a as hx) (Stripped_tail b bs hy)]

theorem stripZeros_spec (l : List Nat) : Stripped (Ver.stripZeros l) ∧ ∀ i, nth0 (Ver.stripZeros l) i = nth0 l i := by
  unfold Ver.stripZeros
  constructor
  · unfold Stripped
    rw [List.getLast?_reverse]
    have := List.head?_dropWhile_not (· == 0) l.reverse
    intro h
    rw [h] at this
    cases this
  · -- `l` is the stripped list followed by the zeros that were dropped
    have hz : (l.reverse.takeWhile (· == 0)).reverse = List.replicate (l.reverse.takeWhile (· == 0)).length 0 :=
      List.eq_replicate_iff.2 ⟨List.length_reverse, fun b hb => by
        simpa using List.all_eq_true.1 List.all_takeWhile b (List.mem_reverse.1 hb)⟩
    have hl : l = (l.reverse.dropWhile (· == 0)).reverse ++ List.replicate (l.reverse.takeWhile (· == 0)).length 0 := by
      rw [← hz, ← List.reverse_append, List.takeWhile_append_dropWhile, List.reverse_reverse]
    intro i
    conv => rhs; rw [hl]
    exact (nth0_append_replicate_zero _ _ i).symm

theorem seqLt_congr (x x' y y' : List Nat) (hx : ∀ i, nth0 x i = nth0 x' i) (hy : ∀ i, nth0 y i = nth0 y' i) :
    seqLt x y ↔ seqLt x' y' := by
  unfold seqLt
  constructor
  · rintro ⟨k, h1, h2⟩
    exact ⟨k, fun i hi => by rw [← hx, ← hy]; exact h1 i hi, by rw [← hx, ← hy]; exact h2⟩
  · rintro ⟨k, h1, h2⟩
    exact ⟨k, fun i hi => by rw [hx, hy]; exact h1 i hi, by rw [hx, hy]; exact h2⟩

theorem strip_lt_iff (x y : List Nat) : Ver.stripZeros x < Ver.stripZeros y ↔ seqLt x y := by
  rw [lex_iff_seqLt _ _ (stripZeros_spec x).1 (stripZeros_spec y).1]
  exact seqLt_congr _ _ _ _ (stripZeros_spec x).2 (stripZeros_spec y).2


/-- the release as `Ver.key` writes it (`+1`, closed by `0`), then what follows it in the key -/
theorem enc_lt_iff (sa sb : List Nat) : ∀ (x y : List Nat),
    (x.map (· + 1) ++ 0 :: sa < y.map (· + 1) ++ 0 :: sb) ↔ (x < y ∨ (x = y ∧ sa < sb)) := by
  intro x
  induction x with
  | nil =>
    intro y
    cases y with
    | nil => simp
    | cons b bs => simp [List.cons_lt_cons_iff]
  | cons a as ih =>
    intro y
    cases y with
    | nil => simp [List.cons_lt_cons_iff]
    | cons b bs =>
      simp only [List.map_cons, List.cons_append, List.cons_lt_cons_iff, ih bs, List.cons.injEq]
      constructor
      · rintro (h | ⟨h1, h2 | ⟨h2, h3⟩⟩)
        · exact Or.inl (Or.inl (by omega))
        · exact Or.inl (Or.inr ⟨by omega, h2⟩)
        · exact Or.inr ⟨⟨by omega, h2⟩, h3⟩
      · rintro ((h | ⟨h1, h2⟩) | ⟨⟨h1, h2⟩, h3⟩)
        · exact Or.inl (by omega)
        · exact Or.inr ⟨by omega, Or.inl h2⟩
        · exact Or.inr ⟨by omega, Or.inr ⟨h2, h3⟩⟩

def suffixKey (v : Ver) : List Nat :=
  (match v.pre, v.post, v.dev with
   | none, none, some _ => [0, 0]
   | none, _, _ => [4, 0]
   | some (k, n), _, _ => [k.rank, n]) ++
  (match v.post with
   | none => [0]
   | some n => [n + 1]) ++
  (match v.dev with
   | none => [1, 0]
   | some n => [0, n])

theorem key_eq (v : Ver) : v.key = v.epoch :: ((Ver.stripZeros v.release).map (· + 1) ++ 0 :: suffixKey v) := by
  simp only [Ver.key, suffixKey, List.append_assoc, List.cons_append, List.nil_append]
  rfl

theorem lt_iff (a b : Ver) :
    lt a b ↔ (a.epoch < b.epoch ∨ (a.epoch = b.epoch ∧
      (seqLt a.release b.release ∨ (Ver.stripZeros a.release = Ver.stripZeros b.release ∧ suffixKey a < suffixKey b)))) := by
  show ¬ (b.key ≤ a.key) ↔ _
  rw [List.not_le, key_eq a, key_eq b, List.cons_lt_cons_iff, enc_lt_iff, strip_lt_iff]

theorem suffixKey_final (v : Ver) (h : v.isFinal = true) : suffixKey v = [4, 0, 0, 1, 0] := by
  rcases v with ⟨e, r, pre, post, dev⟩
  cases pre <;> cases post <;> cases dev <;> simp [Ver.isFinal] at h <;> rfl

/-- Epoch and release are ONE zero-padded sequence, the epoch its first component: the first two
    alternatives of `lt_iff`. -/
theorem lt_of_seqLt (a b : Ver) (h : seqLt (a.epoch :: a.release) (b.epoch :: b.release)) : lt a b :=
  (lt_iff a b).2 (((seqLt_cons ..).1 h).imp_right fun h => ⟨h.1, .inl h.2⟩)

theorem lt_final (a b : Ver) (ha : a.isFinal = true) (hb : b.isFinal = true) :
    lt a b ↔ seqLt (a.epoch :: a.release) (b.epoch :: b.release) := by
  rw [lt_iff, suffixKey_final a ha, suffixKey_final b hb, seqLt_cons]
  simp [List.lt_irrefl]

theorem seqLt_irrefl (x : List Nat) : ¬ seqLt x x := by
  rintro ⟨k, _, h⟩; omega

theorem seqLt_asymm (x y : List Nat) (h : seqLt x y) : ¬ seqLt y x := by
  rintro ⟨k', h1', h2'⟩
  obtain ⟨k, h1, h2⟩ := h
  rcases Nat.lt_trichotomy k k' with hk | hk | hk
  · have := h1' k hk; omega
  · subst hk; omega
  · have := h1 k' hk; omega

theorem seq_trichotomy (x y : List Nat) (h1 : ¬ seqLt x y) (h2 : ¬ seqLt y x) : ∀ i, nth0 x i = nth0 y i := by
  intro i
  induction i using Nat.strongRecOn with
  | _ i ih =>
    rcases Nat.lt_trichotomy (nth0 x i) (nth0 y i) with h | h | h
    · exact absurd ⟨i, ih, h⟩ h1
    · exact h
    · exact absurd ⟨i, fun j hj => (ih j hj).symm, h⟩ h2


def agrees (rel v : List Nat) : Prop := ∀ i, i < rel.length → nth0 v i = nth0 rel i

theorem agrees_cons (x : Nat) (xs v : List Nat) : agrees (x :: xs) v ↔ nth0 v 0 = x ∧ agrees xs v.tail := by
  constructor
  · intro h
    exact ⟨by simpa using h 0 (by simp), fun i hi => by simpa [← nth0_succ] using h (i + 1) (by simpa using hi)⟩
  · rintro ⟨h0, h⟩ i hi
    cases i with
    | zero => simpa using h0
    | succ i => rw [nth0_succ]; simpa using h i (by simpa using hi)

/-- the sequences in `[init.last, init.(last+1))` are exactly those with prefix `init.last` -/
theorem wild_seq : ∀ (init : List Nat) (last : Nat) (v : List Nat),
    (¬ seqLt v (init ++ [last]) ∧ seqLt v (init ++ [last + 1])) ↔ agrees (init ++ [last]) v
  | [], last, v => by
    rw [List.nil_append, List.nil_append, seqLt_uncons v, seqLt_uncons v [last + 1], agrees_cons]
    simp only [List.tail_cons, nth0_cons_zero, seqLt_nil_right, and_false, or_false]
    constructor
    · intro h; exact ⟨by omega, fun i hi => by simp at hi⟩
    · intro h; omega
  | x :: xs, last, v => by
    rw [List.cons_append, List.cons_append, seqLt_uncons v, seqLt_uncons v (x :: (xs ++ [last + 1])), agrees_cons,
      ← wild_seq xs last v.tail]
    simp only [nth0_cons_zero, List.tail_cons]
    constructor
    · rintro ⟨h1, h2 | ⟨h2, h3⟩⟩
      · exact absurd (.inl h2) h1
      · exact ⟨h2, fun h => h1 (.inr ⟨h2, h⟩), h3⟩
    · rintro ⟨h0, h1, h2⟩
      exact ⟨fun h => h.elim (fun h => by omega) (fun h => h1 h.2), .inr ⟨h0, h2⟩⟩

theorem seqLt_append_zero_right (x y : List Nat) : seqLt x (y ++ [0]) ↔ seqLt x y :=
  seqLt_congr _ _ _ _ (fun _ => rfl) (nth0_append_zero y)

theorem padZeros_succ (v : List Nat) (n : Nat) : padZeros v (n + 1) = nth0 v 0 :: padZeros v.tail n := by
  cases v with
  | nil => simp [padZeros, List.replicate_succ]
  | cons a as => simp [padZeros, Nat.succ_sub_succ]

theorem prefixMatch_iff : ∀ (rel v : List Nat), Pep440.prefixMatch rel v = true ↔ agrees rel v
  | [], v => by simp [Pep440.prefixMatch, agrees]
  | x :: xs, v => by
    rw [agrees_cons, ← prefixMatch_iff xs v.tail]
    simp [Pep440.prefixMatch, padZeros_succ]

theorem nextSeries_eq (p : Ver) (n : Nat) (hi : Ver) (h : p.nextSeries n = some hi) :
    ∃ init last, p.release.take n = init ++ [last] ∧ hi = Ver.releaseVersion p.epoch (init ++ [last + 1]) := by
  revert h
  fun_cases Ver.nextSeries p n <;> intro h <;> cases h
  rename_i last init hr
  exact ⟨init.reverse, last, by simpa using congrArg List.reverse hr, rfl⟩

theorem nextSeries_some (p : Ver) (n : Nat) (hn : 0 < n) (hl : 0 < p.release.length) :
    ∃ nx, p.nextSeries n = some nx := by
  fun_cases Ver.nextSeries p n
  · rename_i hr
    have := congrArg List.length hr
    rw [List.length_reverse, List.length_take, Nat.min_def] at this
    simp at this; split at this <;> omega
  · exact ⟨_, rfl⟩

theorem wild_mem (p v hi : Ver) (hv : v.isFinal = true) (h : p.nextSeries p.release.length = some hi) :
    (le (Ver.releaseVersion p.epoch p.release) v ∧ lt v hi) ↔ Pep440.wildMatch p v = true := by
  obtain ⟨init, last, htake, rfl⟩ := nextSeries_eq p _ hi h
  have hrel : p.release = init ++ [last] := by simpa using htake
  -- `wild_seq` with the epoch as the first component of the prefix
  rw [le_iff_not_lt, lt_final v _ hv rfl, lt_final v _ hv rfl]
  simp only [Ver.releaseVersion, Pep440.wildMatch, Bool.and_eq_true, beq_iff_eq, prefixMatch_iff, ← List.cons_append,
    seqLt_append_zero_right]
  rw [hrel, ← List.cons_append, wild_seq (p.epoch :: init) last, List.cons_append, agrees_cons]
  exact and_congr eq_comm Iff.rfl

/-- the witness lies inside the prefix, which is zero from its end on -/
theorem seqLt_take (x z : List Nat) (n : Nat) : seqLt x (z.take n) → seqLt x z := by
  rintro ⟨k, k1, k2⟩
  have hk : k < n := Decidable.by_contra fun hn => by
    rw [nth0_beyond (z.take n) k (Nat.le_trans (List.length_take_le n z) (Nat.le_of_not_lt hn))] at k2; omega
  exact ⟨k, fun i hi => by rw [k1 i hi, nth0_take _ _ _ (by omega)], by rwa [nth0_take _ _ _ hk] at k2⟩

theorem compat_mem (V v hi : Ver) (hv : v.isFinal = true)
    (h : V.nextSeries (V.release.length - 1) = some hi) :
    (le V v ∧ lt v hi) ↔
      (le V v ∧ Pep440.wildMatch { epoch := V.epoch, release := V.release.dropLast } v = true) := by
  have hp : Ver.nextSeries { epoch := V.epoch, release := V.release.dropLast } V.release.dropLast.length = some hi := by
    rw [← h]
    simp [Ver.nextSeries, List.dropLast_eq_take, List.take_take]
  refine and_congr_right fun hle => ?_
  rw [← wild_mem _ v hi hv hp]
  refine ⟨fun hlt => ⟨?_, hlt⟩, And.right⟩
  -- `v` is at or above `P.0` (`P` is `V` less its last segment) because it is at or above `V`, of which `P.0` is a prefix
  rw [le_iff_not_lt, lt_final v _ hv rfl]
  simp only [Ver.releaseVersion, ← List.cons_append, seqLt_append_zero_right, List.dropLast_eq_take]
  exact fun hs => (le_iff_not_lt V v).1 hle
    (lt_of_seqLt v V (seqLt_take _ (V.epoch :: V.release) (V.release.length - 1 + 1) hs))

/-- the step of `_next_series`: the last kept component goes up by one -/
theorem seqLt_bump (last : Nat) (rest rest' : List Nat) : ∀ pre : List Nat,
    seqLt (pre ++ last :: rest) (pre ++ (last + 1) :: rest')
  | [] => (seqLt_cons ..).2 (.inl (Nat.lt_succ_self _))
  | _ :: pre => (seqLt_cons ..).2 (.inr ⟨rfl, seqLt_bump last rest rest' pre⟩)

theorem lt_nextSeries (p hi : Ver) (n : Nat) (h : p.nextSeries n = some hi) :
    lt p hi ∧ lt (Ver.releaseVersion p.epoch p.release) hi := by
  obtain ⟨init, last, htake, rfl⟩ := nextSeries_eq p n hi h
  have hrel : p.release = init ++ last :: p.release.drop n := by
    rw [← List.singleton_append, ← List.append_assoc, ← htake, List.take_append_drop]
  have key : ∀ rest, seqLt (p.epoch :: (init ++ last :: rest)) (p.epoch :: (init ++ [last + 1] ++ [0])) := fun rest => by
    rw [List.append_assoc]; exact seqLt_bump last rest _ (p.epoch :: init)
  constructor <;> apply lt_of_seqLt
  · rw [hrel]; exact key _
  · show seqLt (p.epoch :: (p.release ++ [0])) _
    rw [hrel, List.append_assoc, List.cons_append]; exact key _

theorem eqv_final_iff (a b : Ver) (ha : a.isFinal = true) (hb : b.isFinal = true) :
    eqv a b ↔ ∀ i, nth0 (a.epoch :: a.release) i = nth0 (b.epoch :: b.release) i := by
  rw [eqv, le_iff_not_lt, le_iff_not_lt, lt_final b a hb ha, lt_final a b ha hb]
  constructor
  · exact fun h => seq_trichotomy _ _ h.2 h.1
  · intro hs
    constructor <;> rintro ⟨k, _, hk⟩ <;> rw [hs k] at hk <;> omega

theorem eqv_of_final_seq (a b : Ver) (ha : a.isFinal = true) (hb : b.isFinal = true) (he : a.epoch = b.epoch)
    (hs : ∀ i, nth0 a.release i = nth0 b.release i) : eqv a b :=
  (eqv_final_iff a b ha hb).2 fun i => by cases i <;> simp [he, hs]

end VOrd

namespace Spec

/-- a plain final release `N(.N)*`: no epoch, no pre/post/dev segment — the versions the marker
    properties speak about (`python_version`, `python_full_version`, `platform_release` values) -/
def FinalV (v : Ver) : Prop := v.isFinal = true ∧ v.epoch = 0 ∧ v.release ≠ []

theorem FinalV.eq_mk {v : Ver} (h : FinalV v) : v = { release := v.release } := by
  rcases v with ⟨e, r, pre, post, dev⟩
  have h1 := h.1
  have h2 : e = 0 := h.2.1
  subst h2
  cases pre <;> cases post <;> cases dev <;> simp [Ver.isFinal] at h1 ⊢

theorem FinalV.post {v : Ver} (h : FinalV v) : v.post = none := by rw [h.eq_mk]

end Spec
end DepLogic
