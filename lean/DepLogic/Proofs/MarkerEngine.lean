import DepLogic.Proofs.MarkerSem
/-
  Soundness of the marker engine (`MultiMarker.of`, `MarkerUnion.of`, `union_simplify`,
  `intersect_simplify`, `cnf`, `dnf`, `intersection`, `union`, `&`, `|`) for EVERY fuel, given
  soundness of the single-marker layer (`SingleSound`): what the induction on the fuel (MarkerEngineStep.lean)
  carries, and the specifications of the loops' steps.  Proofs work with `SoundB`; `Sound` spells it out.
-/
namespace DepLogic
namespace M

/-! ### "every single marker inside satisfies G" -/

mutual
def GAll (G : M → Prop) : M → Prop
  | .any => True
  | .empty => True
  | .expr a => G (.expr a)
  | .eqU n vs => G (.eqU n vs)
  | .neM n vs => G (.neM n vs)
  | .multi ms => GAllL G ms
  | .union ms => GAllL G ms
def GAllL (G : M → Prop) : List M → Prop
  | [] => True
  | m :: ms => GAll G m ∧ GAllL G ms
end

theorem GAllL_iff (G : M → Prop) (ms : List M) : GAllL G ms ↔ ∀ m ∈ ms, GAll G m := by
  induction ms with
  | nil => simp [GAllL]
  | cons m ms ih => simp [GAllL, ih]

theorem GAllL.mem {G : M → Prop} {ms : List M} {m : M} (h : GAllL G ms) (hm : m ∈ ms) : GAll G m :=
  (GAllL_iff G ms).1 h m hm

theorem GAll_single (G : M → Prop) (s : M) (h : s.isSingle = true) : GAll G s ↔ G s := by
  cases s <;> first | exact Bool.noConfusion h | exact Iff.rfl

mutual
theorem GAll_imp₂ {G1 G2 G3 : M → Prop} (h : ∀ s, G1 s → G2 s → G3 s) : ∀ (m : M), GAll G1 m → GAll G2 m → GAll G3 m
  | .any, _, _ | .empty, _, _ => trivial
  | .expr _, h1, h2 | .eqU _ _, h1, h2 | .neM _ _, h1, h2 => h _ h1 h2
  | .multi ms, h1, h2 | .union ms, h1, h2 => GAllL_imp₂ h ms h1 h2
theorem GAllL_imp₂ {G1 G2 G3 : M → Prop} (h : ∀ s, G1 s → G2 s → G3 s) :
    ∀ (ms : List M), GAllL G1 ms → GAllL G2 ms → GAllL G3 ms
  | [], _, _ => trivial
  | m :: ms, h1, h2 => ⟨GAll_imp₂ h m h1.1 h2.1, GAllL_imp₂ h ms h1.2 h2.2⟩
end

theorem GAllL_append (G : M → Prop) (a b : List M) : GAllL G (a ++ b) ↔ GAllL G a ∧ GAllL G b := by
  simp only [GAllL_iff, List.mem_append, or_imp, forall_and]

theorem GAll_junction (G : M → Prop) (b : Bool) (ms : List M) : GAll G (junction b ms) ↔ GAllL G ms := by
  cases b <;> rfl

theorem GAll.members {G : M → Prop} {b : Bool} {ms : List M} (h : GAll G (junction b ms)) : ∀ m ∈ ms, GAll G m :=
  fun _ => ((GAll_junction G b ms).1 h).mem

theorem foldl_addNew_G (G : M → Prop) (xs acc : List M) (ha : GAllL G acc) (hx : GAllL G xs) :
    GAllL G (xs.foldl addNew acc) :=
  (GAllL_iff G _).2 fun _ hy => (mem_foldl_addNew xs acc hy).elim ha.mem hx.mem

theorem flattenInto_G (G : M → Prop) (b : Bool) : ∀ (fuel : Nat) (items acc : List M),
    GAllL G items → GAllL G acc → GAllL G (flattenInto b fuel items acc)
  | 0, items, acc, hi, ha => foldl_addNew_G G items acc ha hi
  | n + 1, items, acc, hi, ha => by
    rw [flattenInto_eq]
    refine foldl_addNew_G G _ acc ha ((GAllL_iff G _).2 fun y hy => ?_)
    rcases mem_splice_succ hy with ⟨hy, _⟩ | ⟨ms, hms, hy⟩
    · exact hi.mem hy
    · exact (flattenInto_G G b n ms [] ((GAll_junction G b ms).1 (hi.mem hms)) trivial).mem hy

theorem GAll_const (G : M → Prop) (b : Bool) : GAll G (neutral b) ∧ GAll G (absorbing b) := by
  cases b <;> exact ⟨trivial, trivial⟩

theorem childrenB_G (G : M → Prop) (b : Bool) (m : M) (h : GAll G m) : GAllL G (childrenB b m) := by
  cases b <;> cases m <;> first | exact h | exact ⟨h, trivial⟩

theorem map_G {α : Type} (G : M → Prop) (f : α → M) (ms : List α) (h : ∀ m ∈ ms, GAll G (f m)) :
    GAllL G (ms.map f) :=
  (GAllL_iff G _).2 (List.forall_mem_map.2 h)

theorem filter_G (G : M → Prop) (p : M → Bool) (ms : List M) (h : GAllL G ms) : GAllL G (ms.filter p) :=
  (GAllL_iff G _).2 fun _ hm => h.mem (List.mem_filter.1 hm).1

theorem product_G (G : M → Prop) : ∀ (ls : List (List M)), (∀ l ∈ ls, GAllL G l) → ∀ c ∈ product ls, GAllL G c
  | [], _, c, hc => by cases List.mem_singleton.1 hc; trivial
  | l :: ls, h, c, hc => by
    simp only [product, List.mem_flatMap, List.mem_map] at hc
    obtain ⟨x, hx, r, hr, rfl⟩ := hc
    exact ⟨(h l (List.mem_cons_self ..)).mem hx,
      product_G G ls (fun l' hl' => h l' (List.mem_cons_of_mem _ hl')) r hr⟩

theorem setAt_append (pre : List M) (x : M) (rest : List M) (m : M) :
    setAt (pre ++ x :: rest) pre.length m = pre ++ m :: rest := by
  induction pre with
  | nil => simp [setAt]
  | cons p ps ih => simp [setAt, ih]

/-- the inner loop, started at position `pre.length` of `pre ++ rest`: it aborts on a mark of `rest`, or replaces one -/
theorem scan_spec (f : M → Step) (whole : List M) (i : Nat) (rest : List M) :
    ∀ pre, whole = pre ++ rest → i = pre.length →
    (scan f whole i rest = none → ∃ mark ∈ rest, f mark = .abort) ∧
    ∀ l, scan f whole i rest = some (some l) →
      ∃ p mark q m, rest = p ++ mark :: q ∧ f mark = .replace m ∧ l = pre ++ p ++ m :: q := by
  fun_induction scan f whole i rest <;> intro pre hw hi
  case case1 => exact ⟨nofun, nofun⟩
  case case2 whole i mark rest hf ih =>
    obtain ⟨h1, h2⟩ := ih (pre ++ [mark]) (by simp [hw]) (by simp [hi])
    exact ⟨fun h => (h1 h).imp fun _ h => ⟨List.mem_cons_of_mem _ h.1, h.2⟩, fun l h => by
      obtain ⟨p, mk, q, m, rfl, h2, rfl⟩ := h2 l h
      exact ⟨mark :: p, mk, q, m, rfl, h2, by simp⟩⟩
  case case3 whole i mark rest m hf =>
    subst hw hi
    exact ⟨nofun, fun l h => ⟨[], mark, rest, m, rfl, hf, by cases h; simp [setAt_append]⟩⟩
  case case4 whole i mark rest hf => exact ⟨fun _ => ⟨mark, List.mem_cons_self .., hf⟩, nofun⟩

theorem scan_abort {f : M → Step} {l : List M} (h : scan f l 0 l = none) : ∃ mark ∈ l, f mark = .abort :=
  (scan_spec f l 0 l [] rfl rfl).1 h

theorem scan_replace {f : M → Step} {l l' : List M} (h : scan f l 0 l = some (some l')) :
    ∃ p mark q m, l = p ++ mark :: q ∧ f mark = .replace m ∧ l' = p ++ m :: q :=
  (scan_spec f l 0 l [] rfl rfl).2 l' h

/-! ### the judgment the induction carries

`Ok env G m v`: `m` is over single markers that satisfy `G`, and means `v`.  Each engine function becomes a derived
rule of this judgment (`SoundB`), so that results are composed, not rewritten. -/

section ok
variable (env : Env) (G : M → Prop)

def Ok (m : M) (v : Bool) : Prop := GAll G m ∧ sem env m = v

def OkL (b : Bool) (l : List M) (v : Bool) : Prop := GAllL G l ∧ agg env b l = v

variable {env G} {b : Bool} {x y m : M} {l : List M} {u v : Bool}

theorem ok_absorbing : Ok env G (absorbing b) (!b) := ⟨(GAll_const G b).2, sem_absorbing env b⟩

theorem ok_junction : Ok env G (junction b l) v ↔ OkL env G b l v := by
  rw [Ok, GAll_junction, sem_junction]; rfl

theorem OkL.one (h : OkL env G b [x] v) : Ok env G x v :=
  ⟨h.1.1, by rw [← h.2, agg_one]⟩

theorem OkL.pair (hx : Ok env G x u) (hy : Ok env G y v) : OkL env G b [x, y] (bop b u v) :=
  ⟨⟨hx.1, hy.1, trivial⟩, by rw [agg_cons, agg_one, hx.2, hy.2]⟩

theorem OkL.mem (hl : OkL env G b l v) (hx : x ∈ l) : GAll G x ∧ bop b v (sem env x) = v :=
  ⟨hl.1.mem hx, hl.2 ▸ agg_mem env b l x hx⟩

theorem OkL.flat (n : Nat) (hl : OkL env G b l v) : OkL env G b (flattenInto b n l []) v :=
  ⟨flattenInto_G G b n l [] hl.1 trivial, (flatten_agg env b n l).trans hl.2⟩

theorem OkL.mk (n : Nat) (hl : OkL env G b l v) : Ok env G (mkB b n l) v := by
  rw [mkB_eq]; exact ok_junction.2 (hl.flat n)

end ok

section pass
variable (env : Env) (G : M → Prop) (isAnd : Bool)

/-- invariant of the pass: `new_markers` means `acc`; once the absorbing element was produced, `acc` is it -/
def PassInv (st : Option (List M)) (acc : Bool) : Prop :=
  match st with
  | some new => GAllL G new ∧ agg env isAnd new = acc
  | none => acc = !isAnd

def DecideOk (decide : M → M → Step) : Prop :=
  ∀ {mark marker u v}, Ok env G mark u → Ok env G marker v →
    match decide mark marker with
    | .replace m => Ok env G m (bop isAnd u v)
    | .abort => bop isAnd u v = !isAnd
    | .next => True

def FlatOk (flat : List M → List M) : Prop := ∀ {l v}, OkL env G isAnd l v → OkL env G isAnd (flat l) v

variable {env G isAnd} {decide : M → M → Step} {flat : List M → List M}
  (hd : DecideOk env G isAnd decide) (hf : FlatOk env G isAnd flat)
include hd hf

theorem passStep_inv {st : Option (List M)} {acc v : Bool} {marker : M} (hm : Ok env G marker v)
    (hinv : PassInv env G isAnd st acc) : PassInv env G isAnd (passStep isAnd decide flat st marker) (bop isAnd acc v) := by
  obtain ⟨hm, rfl⟩ := hm
  fun_cases passStep isAnd decide flat st marker
  case case1 => exact hinv ▸ bop_absorb_left isAnd _
  case case2 new hmem =>
    obtain ⟨y, hy, hs⟩ := memB_sem env marker new hmem
    exact ⟨hinv.1, by rw [← hs, (OkL.mem hinv hy).2, hinv.2]⟩
  case case3 new _ hskip =>
    rw [ite_isNeut] at hskip
    exact ⟨hinv.1, by rw [(isNeut_iff isAnd marker).1 hskip, sem_neutral, bop_neutral_right, hinv.2]⟩
  case case4 new _ _ hsc =>
    -- `return EmptyMarker()` / `return AnyMarker()`
    obtain ⟨mark, hmark, hab⟩ := scan_abort hsc
    have hk := OkL.mem hinv hmark
    have hd' := hd ⟨hk.1, rfl⟩ ⟨hm, rfl⟩
    rw [hab] at hd'
    show _ = _
    rw [← hk.2, bop_assoc, hd', bop_absorb_right]
  case case5 new _ _ new' hsc =>
    -- `new_markers[i] = m`
    obtain ⟨p, mark, q, m, rfl, hrep, rfl⟩ := scan_replace hsc
    obtain ⟨hG, rfl⟩ := hinv
    have hG' := (GAllL_append G p (mark :: q)).1 hG
    have hd' := hd ⟨hG'.2.1, rfl⟩ ⟨hm, rfl⟩
    rw [hrep] at hd'
    refine hf ⟨(GAllL_append G p (m :: q)).2 ⟨hG'.1, hd'.1, hG'.2.2⟩, ?_⟩
    -- the incoming marker moves from the replaced mark to the end
    simp only [agg_append, agg_cons, hd'.2]
    rw [bop_assoc _ (sem env mark), bop_comm _ (sem env marker), ← bop_assoc _ (sem env mark), ← bop_assoc]
  case case6 new _ _ _ =>
    -- `new_markers.append(marker)`
    exact ⟨(GAllL_append G new [marker]).2 ⟨hinv.1, hm, trivial⟩,
      by rw [agg_append, agg_one, hinv.2]⟩

theorem pass_fold {old : List M} {v : Bool} (hold : OkL env G isAnd old v) :
    ∀ {st : Option (List M)} {acc : Bool}, PassInv env G isAnd st acc →
      PassInv env G isAnd (old.foldl (passStep isAnd decide flat) st) (bop isAnd acc v) := by
  obtain ⟨hG, rfl⟩ := hold
  induction old with
  | nil => intro st acc h; rwa [agg_nil, bop_neutral_right]
  | cons m ms ih =>
    intro st acc h
    have := ih hG.2 (passStep_inv hd hf ⟨hG.1, rfl⟩ h)
    rwa [agg_cons, ← bop_assoc]

end pass

theorem decideWith_ok {env : Env} {G : M → Prop} {isAnd : Bool} {combine : M → M → M} {simplify : M → M → Option M}
    (hc : ∀ {a b u v}, Ok env G a u → Ok env G b v → Ok env G (combine a b) (bop isAnd u v))
    (hs : ∀ {a b r u v}, Ok env G a u → Ok env G b v → simplify a b = some r → Ok env G r (bop isAnd u v)) :
    DecideOk env G isAnd (decideWith isAnd combine simplify) := by
  intro mark marker u v hmk hmr
  fun_cases decideWith isAnd combine simplify mark marker
  case case1 _ ha =>
    rw [ite_isAbs] at ha
    exact (hc hmk hmr).2.symm.trans (sem_of_isAbs env isAnd ha)
  case case2 => exact hc hmk hmr
  case case4 hr => exact hs hmk hmr hr
  all_goals trivial

/-- soundness of `&`/`|` between two single markers (atoms and grouped atoms) in environment
    `env`, for the singles satisfying `G`; `G` is closed under what the layer creates -/
structure SingleSound (env : Env) (G : M → Prop) : Prop where
  and_ok : ∀ x y, x.isSingle = true → y.isSingle = true → G x → G y →
    match singleAnd x y with
    | .done m => GAll G m ∧ sem env m = (sem env x && sem env y)
    | .pair p q => (p = x ∧ q = y) ∨ (p = y ∧ q = x)
  or_ok : ∀ x y, x.isSingle = true → y.isSingle = true → G x → G y →
    match singleOr x y with
    | .done m => GAll G m ∧ sem env m = (sem env x || sem env y)
    | .pair p q => (p = x ∧ q = y) ∨ (p = y ∧ q = x)

structure Sound (env : Env) (G : M → Prop) (n : Nat) : Prop where
  and_ : ∀ a b, GAll G a → GAll G b → GAll G (M.and n a b) ∧ sem env (M.and n a b) = (sem env a && sem env b)
  or_ : ∀ a b, GAll G a → GAll G b → GAll G (M.or n a b) ∧ sem env (M.or n a b) = (sem env a || sem env b)
  multiOf_ : ∀ ms, GAllL G ms → GAll G (multiOf n ms) ∧ sem env (multiOf n ms) = ms.all (sem env)
  unionOfList_ : ∀ ms, GAllL G ms → GAll G (unionOfList n ms) ∧ sem env (unionOfList n ms) = ms.any (sem env)
  cnf_ : ∀ m, GAll G m → GAll G (cnf n m) ∧ sem env (cnf n m) = sem env m
  dnf_ : ∀ m, GAll G m → GAll G (dnf n m) ∧ sem env (dnf n m) = sem env m
  inter_ : ∀ ms, GAllL G ms → GAll G (intersection n ms) ∧ sem env (intersection n ms) = ms.all (sem env)
  unionOf_ : ∀ ms, GAllL G ms → GAll G (unionOf n ms) ∧ sem env (unionOf n ms) = ms.any (sem env)
  usimp_ : ∀ s o r, GAll G s → GAll G o → unionSimplify n s o = some r →
    GAll G r ∧ sem env r = (sem env s || sem env o)
  isimp_ : ∀ s o r, GAll G s → GAll G o → intersectSimplify n s o = some r →
    GAll G r ∧ sem env r = (sem env s && sem env o)
  mpass_ : ∀ old, GAllL G old → PassInv env G true (multiPass n old) (old.all (sem env))
  upass_ : ∀ old, GAllL G old → PassInv env G false (unionPass n old) (old.any (sem env))
  mloop_ : ∀ old new, GAllL G new → PassInv env G true (multiLoop n old new) (new.all (sem env))
  uloop_ : ∀ old new, GAllL G new → PassInv env G false (unionLoop n old new) (new.any (sem env))

variable {env : Env} {G : M → Prop} {n : Nat}

theorem SingleSound.ok (hS : SingleSound env G) : ∀ b x y, x.isSingle = true → y.isSingle = true → G x → G y →
    match singleB b x y with
    | .done m => GAll G m ∧ sem env m = bop b (sem env x) (sem env y)
    | .pair p q => (p = x ∧ q = y) ∨ (p = y ∧ q = x)
  | true => hS.and_ok
  | false => hS.or_ok

/-- `Sound` with each pair of mirror-image clauses stated once, for both halves of the engine, as rules of the
    judgment; this is what the induction on the fuel carries -/
structure SoundB (env : Env) (G : M → Prop) (n : Nat) : Prop where
  op : ∀ b {x y u v}, Ok env G x u → Ok env G y v → Ok env G (opB b n x y) (bop b u v)
  of : ∀ b {l v}, OkL env G b l v → Ok env G (ofB b n l) v
  nf : ∀ b {m v}, Ok env G m v → Ok env G (nfB b n m) v
  inter : ∀ b {l v}, OkL env G b l v → Ok env G (interB b n l) v
  simp : ∀ b {s o r u v}, Ok env G s u → Ok env G o v → simpB b n s o = some r → Ok env G r (bop b u v)
  pass : ∀ b {l v}, OkL env G b l v → PassInv env G b (passB b n l) v
  loop : ∀ b old {l v}, OkL env G b l v → PassInv env G b (loopB b n old l) v

theorem SoundB.sound (h : SoundB env G n) : Sound env G n where
  and_ _ _ ha hb := h.op true ⟨ha, rfl⟩ ⟨hb, rfl⟩
  or_ _ _ ha hb := h.op false ⟨ha, rfl⟩ ⟨hb, rfl⟩
  multiOf_ _ hl := h.of true ⟨hl, rfl⟩
  unionOfList_ _ hl := h.of false ⟨hl, rfl⟩
  cnf_ _ hm := h.nf true ⟨hm, rfl⟩
  dnf_ _ hm := h.nf false ⟨hm, rfl⟩
  inter_ _ hl := h.inter true ⟨hl, rfl⟩
  unionOf_ _ hl := h.inter false ⟨hl, rfl⟩
  usimp_ _ _ _ hs ho hr := h.simp false ⟨hs, rfl⟩ ⟨ho, rfl⟩ hr
  isimp_ _ _ _ hs ho hr := h.simp true ⟨hs, rfl⟩ ⟨ho, rfl⟩ hr
  mpass_ _ hl := h.pass true ⟨hl, rfl⟩
  upass_ _ hl := h.pass false ⟨hl, rfl⟩
  mloop_ old _ hl := h.loop true old ⟨hl, rfl⟩
  uloop_ old _ hl := h.loop false old ⟨hl, rfl⟩

theorem soundB_zero (env : Env) (G : M → Prop) : SoundB env G 0 where
  op b _ _ _ _ hx hy := by rw [opB_zero]; exact ok_junction.2 (OkL.pair hx hy)
  of b _ _ h := by rw [ofB_zero]; exact ok_junction.2 h
  nf b _ _ h := by rwa [nfB_zero]
  inter b _ _ h := by rw [interB_zero]; exact ok_junction.2 h
  simp b _ _ _ _ _ _ _ h := by rw [simpB_zero] at h; cases h
  pass b _ _ h := by rwa [passB_zero]
  loop b old _ _ h := by rwa [loopB_zero]

end M
end DepLogic
