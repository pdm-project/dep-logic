import DepLogic.Model.Marker
/-
  `markers/multi.py` and `markers/union.py` are mirror images: exchange `and` with `or`, `MultiMarker`
  with `MarkerUnion`, `AnyMarker` with `EmptyMarker`, `cnf` with `dnf`, and one becomes the other.  The
  model keeps the two halves apart, as the code does.  The proofs reach them through the selectors
  below — `b = true` is the conjunctive half — and through equations saying what a step of each
  computes, so that a fact about the engine is stated and proved once for both halves.
-/
namespace DepLogic

theorem ite_both {α : Type} {P : α → Prop} {c : Prop} [Decidable c] {a b : α} (ha : P a) (hb : P b) :
    P (if c then a else b) := by
  split <;> assumption

theorem ite_cases {α : Type} {P : α → Prop} {c : Prop} [Decidable c] {a b : α} (ha : c → P a) (hb : ¬ c → P b) :
    P (if c then a else b) := by
  by_cases h : c
  · rw [if_pos h]; exact ha h
  · rw [if_neg h]; exact hb h

@[elab_as_elim]
theorem ite_some {α : Type} {P : α → Prop} {c : Prop} [Decidable c] {a m : α} {o : Option α}
    (h : (if c then some a else o) = some m) (ha : c → P a) (ho : ¬ c → o = some m → P m) : P m := by
  by_cases hc : c
  · rw [if_pos hc] at h; cases h; exact ha hc
  · rw [if_neg hc] at h; exact ho hc h

theorem ite_swap {α : Type} {p q : Prop} [Decidable p] [Decidable q] (h : ¬ (p ∧ q)) (x y z : α) :
    (if p then x else if q then y else z) = if q then y else if p then x else z := by
  by_cases hp : p <;> by_cases hq : q <;> simp only [hp, hq, if_true, if_false]
  exact absurd ⟨hp, hq⟩ h

theorem filterMap_eq_map_of {α β : Type} (g : α → Option β) (f : α → β) (l : List α) (h : ∀ x ∈ l, g x = some (f x)) :
    l.filterMap g = l.map f := by
  induction l with
  | nil => rfl
  | cons x xs ih =>
    rw [List.filterMap_cons, h x (List.mem_cons_self ..), List.map_cons, ih fun y hy => h y (List.mem_cons_of_mem _ hy)]

namespace M

def junction : Bool → List M → M | true => .multi | false => .union
def neutral : Bool → M | true => .any | false => .empty
def absorbing : Bool → M | true => .empty | false => .any
def isNeut : Bool → M → Bool | true => isAny | false => isEmpty
def isAbs : Bool → M → Bool | true => isEmpty | false => isAny
def isJunction : Bool → M → Bool | true => isMulti | false => isUnion
def childrenB : Bool → M → List M | true => multiChildren | false => unionChildren
def mkB : Bool → Nat → List M → M | true => mkMulti | false => mkUnion
def singleB : Bool → M → M → SRes | true => singleAnd | false => singleOr
def opB : Bool → Nat → M → M → M | true => M.and | false => M.or
def ofB : Bool → Nat → List M → M | true => multiOf | false => unionOfList
def passB : Bool → Nat → List M → Option (List M) | true => multiPass | false => unionPass
def loopB : Bool → Nat → List M → List M → Option (List M) | true => multiLoop | false => unionLoop
def simpB : Bool → Nat → M → M → Option M | true => intersectSimplify | false => unionSimplify
def nfB : Bool → Nat → M → M | true => cnf | false => dnf
/-- `intersection(*ms)` / `union(*ms)`: these two are not mirror images -/
def interB : Bool → Nat → List M → M | true => intersection | false => unionOf

theorem isNeut_iff (b : Bool) (m : M) : isNeut b m = true ↔ m = neutral b := by
  cases b <;> cases m <;> simp [isNeut, neutral, isAny, isEmpty]

theorem isAbs_iff (b : Bool) (m : M) : isAbs b m = true ↔ m = absorbing b := by
  cases b <;> cases m <;> simp [isAbs, absorbing, isAny, isEmpty]

theorem isJunction_iff (b : Bool) (m : M) : isJunction b m = true ↔ ∃ ms, m = junction b ms := by
  cases b <;> cases m <;> simp [isJunction, junction, isMulti, isUnion]

/-- the tests as `passStep` and `decideWith` spell them -/
theorem ite_isNeut (b : Bool) (m : M) : (if b then m.isAny else m.isEmpty) = isNeut b m := by cases b <;> rfl
theorem ite_isAbs (b : Bool) (m : M) : (if b then m.isEmpty else m.isAny) = isAbs b m := by cases b <;> rfl
theorem ite_isOther (b : Bool) (m : M) : (if b then m.isUnion else m.isMulti) = isJunction (!b) m := by
  cases b <;> rfl

theorem kind_cases (b : Bool) (m : M) :
    m = neutral b ∨ m = absorbing b ∨ m.isSingle = true ∨ ∃ b' ms, m = junction b' ms := by
  cases m with
  | multi ms => exact .inr (.inr (.inr ⟨true, ms, rfl⟩))
  | union ms => exact .inr (.inr (.inr ⟨false, ms, rfl⟩))
  | expr _ | eqU _ _ | neM _ _ => exact .inr (.inr (.inl rfl))
  | any | empty => cases b <;> simp [neutral, absorbing]

theorem single_not_const (b : Bool) {x : M} (hx : x.isSingle = true) : isNeut b x = false ∧ isAbs b x = false := by
  cases x <;> first | exact Bool.noConfusion hx | (cases b <;> exact ⟨rfl, rfl⟩)

theorem single_not_junction (b : Bool) {x : M} (hx : x.isSingle = true) : isJunction b x = false := by
  cases x <;> first | exact Bool.noConfusion hx | (cases b <;> rfl)

theorem childrenB_junction (b : Bool) (ms : List M) : childrenB b (junction b ms) = ms := by cases b <;> rfl

theorem childrenB_other (b : Bool) (m : M) (h : isJunction b m = false) : childrenB b m = [m] := by
  cases b <;> cases m <;> first | rfl | cases h

theorem mkB_eq (b : Bool) (n : Nat) (ms : List M) : mkB b n ms = junction b (flattenInto b n ms []) := by
  cases b <;> rfl

theorem mem_addNew {acc : List M} {x y : M} (h : y ∈ addNew acc x) : y ∈ acc ∨ y = x := by
  unfold addNew at h; split at h
  · exact Or.inl h
  · simpa using h

theorem mem_foldl_addNew {y : M} (xs acc : List M) : y ∈ xs.foldl addNew acc → y ∈ acc ∨ y ∈ xs :=
  List.foldlRecOn (motive := fun r => y ∈ r → y ∈ acc ∨ y ∈ xs) xs addNew Or.inl
    fun _ ih _ hx hy => (mem_addNew hy).elim ih fun e => Or.inr (e ▸ hx)

/-- the items as `flatten_items` sees them: those of the kind being built replaced by their (flattened) children -/
def splice (b : Bool) : Nat → List M → List M
  | 0, items => items
  | n + 1, items => items.flatMap fun x => if isJunction b x then flattenInto b n (childrenB b x) [] else [x]

theorem flattenInto_eq (b : Bool) (n : Nat) (items acc : List M) :
    flattenInto b n items acc = (splice b n items).foldl addNew acc := by
  cases n with
  | zero => rfl
  | succ n =>
    simp only [flattenInto, splice]
    induction items generalizing acc with
    | nil => rfl
    | cons x xs ih =>
      rw [List.foldl_cons, ih, List.flatMap_cons, List.foldl_append]
      refine congrArg (fun a => List.foldl addNew a _) ?_
      cases b <;> cases x <;> rfl

theorem mem_splice_succ {b : Bool} {n : Nat} {items : List M} {y : M} (h : y ∈ splice b (n + 1) items) :
    y ∈ items ∧ isJunction b y = false ∨ ∃ ms, junction b ms ∈ items ∧ y ∈ flattenInto b n ms [] := by
  obtain ⟨x, hx, hy⟩ := List.mem_flatMap.1 h
  by_cases hj : isJunction b x = true
  · obtain ⟨ms, rfl⟩ := (isJunction_iff b x).1 hj
    rw [if_pos hj, childrenB_junction] at hy
    exact Or.inr ⟨ms, hx, hy⟩
  · rw [if_neg hj] at hy
    cases List.mem_singleton.1 hy
    exact Or.inl ⟨hx, Bool.not_eq_true _ ▸ hj⟩

theorem splice_plain (b : Bool) (n : Nat) (items : List M) (hi : ∀ x ∈ items, isJunction b x = false) :
    splice b n items = items := by
  cases n with
  | zero => rfl
  | succ n =>
    simp only [splice]
    induction items with
    | nil => rfl
    | cons x xs ih =>
      rw [List.flatMap_cons, if_neg (by simp [hi x (List.mem_cons_self ..)]), ih fun y hy => hi y (List.mem_cons_of_mem _ hy)]
      rfl

theorem opB_zero (b : Bool) (x y : M) : opB b 0 x y = junction b [x, y] := by cases b <;> rfl

theorem opB_neutral (b : Bool) (n : Nat) (y : M) : opB b (n + 1) (neutral b) y = y := by cases b <;> rfl

theorem opB_absorbing (b : Bool) (n : Nat) (y : M) : opB b (n + 1) (absorbing b) y = absorbing b := by
  cases b <;> rfl

theorem opB_compound (b : Bool) (n : Nat) {x : M} (y : M) (hx : ∃ b' ms, x = junction b' ms) :
    opB b (n + 1) x y = interB b n [x, y] := by
  obtain ⟨b', ms, rfl⟩ := hx
  cases b <;> cases b' <;> rfl

theorem opB_single_neutral (b : Bool) (n : Nat) {x : M} (hx : x.isSingle = true) : opB b (n + 1) x (neutral b) = x := by
  cases b <;> cases x <;> first | exact Bool.noConfusion hx | rfl

theorem opB_single_absorbing (b : Bool) (n : Nat) {x : M} (hx : x.isSingle = true) :
    opB b (n + 1) x (absorbing b) = absorbing b := by
  cases b <;> cases x <;> first | exact Bool.noConfusion hx | rfl

theorem opB_single_compound (b : Bool) (n : Nat) {x y : M} (hx : x.isSingle = true) (hy : ∃ b' ms, y = junction b' ms) :
    opB b (n + 1) x y = interB b n [y, x] := by
  obtain ⟨b', ms, rfl⟩ := hy
  cases b <;> cases b' <;> cases x <;> first | exact Bool.noConfusion hx | rfl

theorem opB_singles (b : Bool) (n : Nat) {x y : M} (hx : x.isSingle = true) (hy : y.isSingle = true) :
    opB b (n + 1) x y =
      match singleB b x y with
      | .done m => m
      | .pair p q => mkB b n [p, q] := by
  cases b <;> cases x <;> first | exact Bool.noConfusion hx | (cases y <;> first | exact Bool.noConfusion hy | rfl)

theorem ofB_zero (b : Bool) (ms : List M) : ofB b 0 ms = junction b ms := by cases b <;> rfl

theorem ofB_succ (b : Bool) (n : Nat) (ms : List M) :
    ofB b (n + 1) ms =
      match loopB b n [] (flattenInto b n ms []) with
      | none => absorbing b
      | some new =>
        if new.any (isAbs b) then absorbing b
        else match new with
          | [] => neutral b
          | [m] => m
          | _ => mkB b n new := by
  cases b <;> rfl

theorem passB_zero (b : Bool) (old : List M) : passB b 0 old = some old := by cases b <;> rfl

theorem passB_succ (b : Bool) (n : Nat) (old : List M) :
    passB b (n + 1) old =
      old.foldl (passStep b (decideWith b (opB b n) (simpB b n)) fun l => flattenInto b n l []) (some []) := by
  cases b <;> rfl

theorem loopB_zero (b : Bool) (old new : List M) : loopB b 0 old new = some new := by cases b <;> rfl

theorem loopB_succ (b : Bool) (n : Nat) (old new : List M) :
    loopB b (n + 1) old new =
      if beqList old new then some new
      else match passB b n new with
        | none => none
        | some new' => loopB b n new new' := by
  cases b <;> rfl

theorem simpB_zero (b : Bool) (s o : M) : simpB b 0 s o = none := by cases b <;> rfl

/-- last step of `intersect_simplify` / `union_simplify`: `u` is what the children not shared combine to -/
def simpPick (b : Bool) (n : Nat) (shared : List M) (u : M) : Option M :=
  if u.isSingle || isAbs b u then
    if isAbs b u then some (ofB (!b) n shared) else some (opB (!b) n u (mkB (!b) n shared))
  else none

/-- `intersect_simplify` / `union_simplify` of two compounds `s`, `o` of the other kind with children
    `ours`, `theirs` -/
def simpChildren (b : Bool) (n : Nat) (s o : M) (ours theirs : List M) : Option M :=
  if ours.all (memB · theirs) then some s
  else if theirs.all (memB · ours) then some o
  else if (ours.filter (memB · theirs)).isEmpty then none
  else simpPick b n (ours.filter (memB · theirs))
    (opB b n (mkB (!b) n (ours.filter fun m => !memB m theirs)) (mkB (!b) n (theirs.filter fun m => !memB m ours)))

theorem simpB_succ (b : Bool) (n : Nat) (s o : M) :
    simpB b (n + 1) s o =
      if isJunction (!b) s then
        if memB o (childrenB (!b) s) then some o
        else if isJunction (!b) o then simpChildren b n s o (childrenB (!b) s) (childrenB (!b) o)
        else none
      else none := by
  cases b <;> cases s <;> first | rfl | (cases o <;> rfl)

theorem nfB_zero (b : Bool) (m : M) : nfB b 0 m = m := by cases b <;> rfl

theorem nfB_leaf (b : Bool) (n : Nat) (m : M) (h : m.isMulti = false) (h' : m.isUnion = false) : nfB b n m = m := by
  cases n <;> cases b <;> cases m <;> first | rfl | exact Bool.noConfusion h | exact Bool.noConfusion h'

theorem nfB_same (b : Bool) (n : Nat) (ms : List M) :
    nfB b (n + 1) (junction b ms) = ofB b n (ms.map (nfB b n)) := by
  cases b <;> rfl

theorem nfB_other (b : Bool) (n : Nat) (ms : List M) :
    nfB b (n + 1) (junction (!b) ms) =
      ofB b n ((product ((ms.map (nfB b n)).map (childrenB b))).map (ofB (!b) n)) := by
  cases b <;> rfl

theorem interB_zero (b : Bool) (ms : List M) : interB b 0 ms = junction b ms := by cases b <;> rfl

theorem unionOf_elim {P : M → Prop} (n : Nat) (ms : List M) :
    let u := unwrapSingletons (n + 1) (mkUnion n (ms.filter fun m => !m.isEmpty))
    P u → P (cnf n u) → P (dnf n (cnf n u)) → P (unionOf (n + 1) ms) :=
  fun hu hc hd => ite_both hc (ite_both hd (ite_both hu (ite_both hc hd)))

/-! ### grouped atoms

`EqualityMarkerUnion` and `InequalityMultiMarker` are mirror images, like `multi.py` and `union.py`.  Under
`&` (`b = true`) the union of equalities is the WEAK group: combined with anything on its variable it only loses
values; the conjunction of inequalities is the STRONG one: it absorbs what it is combined with.  Under `|` the
roles are exchanged.  So `__and__` and `__or__` of the two classes are one table. -/

def weak : Bool → String → List String → M | true => .eqU | false => .neM
def strong : Bool → String → List String → M | true => .neM | false => .eqU
/-- `EqualityMarkerUnion.replace` / `InequalityMultiMarker.replace`: the weak group's -/
def replB : Bool → String → List String → M | true => eqReplace | false => neReplace
/-- the operator of the atoms the weak group stands for -/
def weakOp : Bool → MOp | true => .eq | false => .ne
/-- membership in a list of values as the weak group means it: negated for a conjunction of `!=` -/
def pol (b x : Bool) : Bool := if b then x else !x

inductive View where
  | weak (n : String) (vs : List String)
  | strong (n : String) (vs : List String)
  | atom (c : Atom)

def View.toM (b : Bool) : View → M
  | .atom c => .expr c
  | .weak n vs => M.weak b n vs
  | .strong n vs => M.strong b n vs

def View.name : View → String
  | .atom c => c.name
  | .weak n _ | .strong n _ => n

theorem single_view (b : Bool) (x : M) (sx : x.isSingle = true) : ∃ u : View, x = u.toM b := by
  cases x with
  | expr c => exact ⟨.atom c, rfl⟩
  | eqU n vs => cases b; exact ⟨.strong n vs, rfl⟩; exact ⟨.weak n vs, rfl⟩
  | neM n vs => cases b; exact ⟨.weak n vs, rfl⟩; exact ⟨.strong n vs, rfl⟩
  | any | empty | multi _ | union _ => cases sx

theorem View.name_toM (b : Bool) (u : View) : (u.toM b).isSingle = true ∧ (u.toM b).singleName? = some u.name := by
  cases u <;> cases b <;> exact ⟨rfl, rfl⟩

/-- THE TABLE: a group `u` and a single marker `v` on the same variable -/
def cellB (b : Bool) (u v : View) : SRes :=
  match u, v with
  | .weak n vs, .atom c => .done (replB b n (vs.filter fun v => pol b (c.spec.containsStr v)))
  | .weak n vs, .weak _ ws => .done (replB b n (ws.filter fun v => vs.contains v))
  | .weak n vs, .strong _ ws => .done (replB b n (vs.filter fun v => !ws.contains v))
  | .strong _ vs, .weak m ws => .done (replB b m (ws.filter fun v => !vs.contains v))
  | .strong n vs, .strong _ ws => .done (strong b n (vs ++ ws.filter fun v => !vs.contains v))
  | .strong n vs, .atom c =>
    if c.op == weakOp b then (if vs.contains c.value then .done (absorbing b) else .done (.expr c))
    else if c.op == weakOp (!b) then
      (if vs.contains c.value then .done (strong b n vs) else .done (strong b n (vs ++ [c.value])))
    else if (if b then !(vs.any fun v => c.spec.containsStr v) else vs.all fun v => c.spec.containsStr v) then
      .done (.expr c)
    else .pair (u.toM b) (v.toM b)
  | .atom _, _ => .pair (u.toM b) (v.toM b)

def groupB (b : Bool) (u v : View) : SRes :=
  if u.name != v.name then .pair (u.toM b) (v.toM b) else cellB b u v

/-- `&` / `|` of two single markers: atoms are merged; an atom on the left of a group ends, by Python's
    `NotImplemented` → reflected dispatch, in the group's own method -/
def tableB (b : Bool) : View → View → SRes
  | .atom a, .atom c =>
    match mergeSingle a c b with
    | some m => .done m
    | none => .pair (.expr a) (.expr c)
  | .atom a, v => groupB b v (.atom a)
  | u, v => groupB b u v

theorem singleB_view (b : Bool) (u v : View) : singleB b (u.toM b) (v.toM b) = tableB b u v := by
  -- `__or__` asks for `==` first and `!=` second: the other way round, and an atom has one operator
  have swap : ∀ n vs (c : Atom), singleB false (.eqU n vs) (.expr c) = groupB false (.strong n vs) (.atom c) :=
    fun n vs c => congrArg (ite _ _) (ite_swap
      (fun h => absurd ((eq_of_beq h.1).symm.trans (eq_of_beq h.2)) (by decide)) _ _ _)
  cases u with
  | weak n vs => cases v <;> cases b <;> rfl
  | strong n vs =>
    cases v with
    | atom c => cases b; exact swap n vs c; rfl
    | weak _ _ | strong _ _ => cases b <;> rfl
  | atom a =>
    cases v with
    | strong n vs => cases b; exact swap n vs a; rfl
    | weak _ _ | atom _ => cases b <;> rfl

theorem replB_eq (b : Bool) (n : String) (l : List String) :
    replB b n l = match l with
      | [] => absorbing b
      | [v] => .expr ⟨n, weakOp b, v, false, .gen ⟨if b then .eq else .ne, v⟩⟩
      | _ => weak b n l := by
  cases b <;> rfl

/-! ### `only` and `exclude`, one step -/

theorem only_single_eq (fuel : Nat) (names : List String) (s : M) (hs : s.isSingle = true) :
    ∃ n, s.singleName? = some n ∧ only (fuel + 1) s names = if names.contains n then s else .any := by
  cases s with
  | expr _ | eqU _ _ | neM _ _ => exact ⟨_, rfl, rfl⟩
  | any | empty | multi _ | union _ => cases hs

theorem exclude_single_eq (fuel : Nat) (name : String) (s : M) (hs : s.isSingle = true) :
    exclude (fuel + 1) s name = if s.singleName? == some name then .any else s := by
  cases s with
  | expr _ | eqU _ _ | neM _ _ => rfl
  | any | empty | multi _ | union _ => cases hs

theorem only_junction (b : Bool) (fuel : Nat) (ms : List M) (names : List String) :
    only (fuel + 1) (junction b ms) names = ofB b fuel (ms.map fun c => only fuel c names) := by
  cases b <;> rfl

/-- what `exclude` hands to `MultiMarker.of` / `MarkerUnion.of`: the members with `name` excluded, but for the single
    markers on `name` itself and, of a conjunction, for what became `EmptyMarker` -/
def keptB (b : Bool) (f : Nat) (name : String) (l : List M) : List M :=
  l.filterMap fun c =>
    if c.isSingle && c.singleName? == some name then none
    else if b && (exclude f c name).isEmpty then none else some (exclude f c name)

theorem exclude_junction (b : Bool) (f : Nat) (l : List M) (name : String) :
    exclude (f + 1) (junction b l) name =
      if !b && (keptB b f name l).isEmpty then .any else ofB b f (keptB b f name l) := by
  cases b <;> rfl

/-- what is kept are exclusions of members that are not single markers on `name` -/
theorem forall_mem_keptB {b : Bool} {f : Nat} {l : List M} {name : String} {P : M → Prop}
    (h : ∀ c ∈ l, (c.isSingle && c.singleName? == some name) = false → P (exclude f c name)) :
    ∀ x ∈ keptB b f name l, P x := by
  intro x hx
  obtain ⟨c, hc, hcx⟩ := List.mem_filterMap.1 hx
  obtain ⟨hg, hcx⟩ := Option.ite_none_left_eq_some.1 hcx
  obtain ⟨_, hcx⟩ := Option.ite_none_left_eq_some.1 hcx
  exact Option.some.inj hcx ▸ h c hc (Bool.not_eq_true _ ▸ hg)

theorem keptB_eq_map {b : Bool} {f : Nat} {l : List M} {name : String}
    (h : ∀ c ∈ l, (c.isSingle && c.singleName? == some name) = false ∧ (b && (exclude f c name).isEmpty) = false) :
    keptB b f name l = l.map fun c => exclude f c name :=
  filterMap_eq_map_of _ _ l fun c hc => by
    simp only [(h c hc).1, (h c hc).2, Bool.false_eq_true, if_false]

end M
end DepLogic
