import DepLogic.Proofs.MarkerSingles
import DepLogic.Properties.C11
import DepLogic.Proofs.LexLemmas
/-
  `MarkerExpression.from_specifier` means the specifier it is given (C11, second half):
  `FromSpecOk`, a parameter of C02's theorems, is proved here (`fromSpecOk_of_lex`).  That the operand
  it prints is read back as its clause is `lexPrint_full`, on the character-level lemmas of
  Proofs/LexLemmas.lean; the string surgery of `_normalize_python_version_specifier` enters as the
  hypothesis `LexNormOk`, which Proofs/LexNorm.lean proves (`lexNorm_final`).
-/
namespace DepLogic
open LinPre VOrd Spec

theorem releaseVersion_final (r : List Nat) : FinalV (Ver.releaseVersion 0 r) :=
  ⟨rfl, rfl, by simp [Ver.releaseVersion]⟩

theorem nextSeries_final (p hi : Ver) (n : Nat) (hp : p.epoch = 0) (h : p.nextSeries n = some hi) : FinalV hi := by
  obtain ⟨init, last, _, rfl⟩ := nextSeries_eq p n hi h
  rw [hp]; exact releaseVersion_final _

theorem releaseVersion_tail2 (e : Nat) (r : List Nat) (hr : r.length ≤ 2) :
    ∀ i, 2 ≤ i → nth0 (Ver.releaseVersion e r).release i = 0 := by
  intro i hi
  simp only [Ver.releaseVersion]
  rw [nth0_append_zero]
  exact nth0_beyond r i (by omega)

theorem nextSeries_tail2 (v mx : Ver) (n : Nat) (hn : n ≤ 2) (h : v.nextSeries n = some mx) :
    ∀ i, 2 ≤ i → nth0 mx.release i = 0 := by
  obtain ⟨init, last, htk, rfl⟩ := nextSeries_eq v n mx h
  have hlen : (init ++ [last + 1]).length ≤ 2 := by
    have h1 := congrArg List.length htk
    have h2 := List.length_take_le n v.release
    simp only [List.length_append, List.length_cons, List.length_nil] at h1 ⊢
    omega
  exact releaseVersion_tail2 _ _ hlen

theorem fromClause_final (c : Clause Ver) (s : Spec Ver) (h : fromClause c = some s) (hc : FinalV c.ver) :
    BoundsIn FinalV s :=
  boundsIn_of_allVers _ _ <| fromClause_allVers FinalV c s h hc
    (fun _ => by rw [hc.2.1]; exact releaseVersion_final _)
    (fun n mx _ hmx => nextSeries_final c.ver mx n hc.2.1 hmx)

namespace M

/-- the clause the new atom is read as: `X`/`X.Y` padded to `X.Y.0` where `from_specifier` pads -/
def fsC (name : String) (c : Clause Ver) : Clause Ver :=
  if fsPad name c then
    { c with ver := { release := c.ver.release ++ List.replicate (3 - c.ver.release.length) 0 } }
  else c

theorem fsC_eqv (name : String) (c : Clause Ver) : eqv (fsC name c).ver c.ver ∧ (fsC name c).op = c.op ∧ (fsC name c).wild = c.wild := by
  have rf := @LinPre.le_refl Ver _
  unfold fsC
  split
  · rename_i hp
    simp only [fsPad, Bool.and_eq_true, beq_iff_eq, bne_iff_ne, Bool.not_eq_true', decide_eq_true_eq] at hp
    obtain ⟨⟨⟨⟨⟨_, _⟩, _⟩, he⟩, hf⟩, _⟩ := hp
    refine ⟨?_, rfl, rfl⟩
    apply eqv_of_final_seq _ _ rfl hf (by simpa using he.symm)
    intro i
    exact nth0_append_replicate_zero _ _ _
  · exact ⟨⟨rf _, rf _⟩, rfl, rfl⟩

theorem fsC_final (name : String) (c : Clause Ver) (h : FinalV c.ver) : FinalV (fsC name c).ver := by
  unfold fsC; split
  · exact ⟨rfl, rfl, by simp [h.2.2]⟩
  · exact h

/-- padding changes the version of a plain clause to one that compares equal, and such a clause
    means what PEP 440 says (C04's leaf) -/
theorem fromClause_fsC_mem (name : String) (c : Clause Ver) (s s' : Spec Ver) (hs : fromClause c = some s)
    (hs' : fromClause (fsC name c) = some s') (v : Ver) : s'.mem v ↔ s.mem v := by
  by_cases hp : c.op = .compat ∨ c.wild = true
  · rw [show fsC name c = c by unfold fsC fsPad; rcases hp with h | h <;> simp [h], hs] at hs'; cases hs'; exact Iff.rfl
  · obtain ⟨he, ho, hw⟩ := fsC_eqv name c
    have hpl : C04.Plain c := ⟨by simpa using fun h => hp (.inr h), fun h => hp (.inl h)⟩
    have h := C04.matches_eq _ v (.inr ⟨hw ▸ hpl.1, ho ▸ hpl.2⟩) s' hs'
    rw [matchesFinal_congr _ c ho (hw ▸ hpl.1) hpl.1 (ho ▸ hpl.2) he v, C04.matches_eq c v (.inr hpl) s hs] at h
    exact decide_eq_decide.1 (Option.some.inj h).symm

theorem mop_str (op : COp) : (MOp.ofCOp op).str = op.str := by cases op <;> rfl

theorem fsC_pv (c : Clause Ver) : fsC "python_version" c = c := by
  unfold fsC fsPad; simp

theorem join_snoc (l : List String) (t : String) (hl : l ≠ []) :
    ".".intercalate (l ++ [t]) = ".".intercalate l ++ ("." ++ t) := by
  rw [String.intercalate_append_of_ne_nil hl (List.cons_ne_nil t []), String.intercalate_singleton, String.append_assoc]

/-- The operand text `from_specifier` writes is the join of these (`fsText_eq`); the specifier lexer reads
    the join back as the clause (`lex_clause`) and `_normalize_python_version_specifier` splits it into
    them again (`split_segs`). -/
def segs (c : Clause Ver) : List String := c.ver.release.map toString ++ (if c.wild then ["*"] else [])

theorem segs_toList (c : Clause Ver) (hR : c.ver.release ≠ []) :
    (".".intercalate (segs c)).toList = Lex.relText c.ver.release ++ (if c.wild then ['.', '*'] else []) := by
  unfold segs
  cases c.wild
  · rw [if_neg Bool.false_ne_true, if_neg Bool.false_ne_true, List.append_nil, List.append_nil]
    exact Lex.toList_relString _
  · rw [if_pos rfl, if_pos rfl, join_snoc _ _ (by simpa using hR), String.toList_append, Lex.toList_relString]
    rfl

theorem segs_clean (c : Clause Ver) (hR : c.ver.release ≠ []) : C11.Clean (".".intercalate (segs c)).toList := by
  rw [segs_toList c hR]
  exact Lex.relText_clean _ _ (by cases c.wild <;> simp [C11.Clean])

theorem fsText_eq (name : String) (c : Clause Ver) (hv : FinalV c.ver) :
    fsText name c = ".".intercalate (segs (fsC name c)) := by
  unfold fsText fsC segs
  by_cases hp : fsPad name c = true
  · have hw : c.wild = false := by
      simp only [fsPad, Bool.and_eq_true, Bool.not_eq_true'] at hp
      exact hp.1.1.1.2
    simp only [hp, if_true, hw, Bool.false_eq_true, if_false, List.append_nil]
  · simp only [hp, Bool.false_eq_true, if_false]
    rw [String.toList_inj.1 ((Lex.toList_str_final c.ver hv.1 hv.2.1).trans (Lex.toList_relString _).symm)]
    cases c.wild
    · simp
    · exact (join_snoc _ "*" (by simpa using hv.2.2)).symm

theorem lex_clause (c : Clause Ver) (hv : FinalV c.ver) :
    SpecParse.parseClauseL ((MOp.ofCOp c.op).str ++ ".".intercalate (segs c)).toList =
      (if c.wild = true ∧ ¬ (c.op = .eq ∨ c.op = .ne) then none else some c) ∧
    SpecParse.parseAltsText ((MOp.ofCOp c.op).str ++ ".".intercalate (segs c)) =
      (SpecParse.parseClauseL ((MOp.ofCOp c.op).str ++ ".".intercalate (segs c)).toList).map fun c => [.clauses [c]] := by
  have hT : ((MOp.ofCOp c.op).str ++ ".".intercalate (segs c)).toList =
      c.op.str.toList ++ (Lex.relText c.ver.release ++ (if c.wild then ['.', '*'] else [])) := by
    rw [String.toList_append, mop_str, segs_toList c hv.2.2]
  rcases c with ⟨op, v, w⟩
  obtain ⟨x, xs, hx, hxd⟩ := Lex.relText_head _ hv.2.2
  -- the text holds a digit, so it is neither empty nor `<empty>`
  have hmem : x ∈ ((MOp.ofCOp op).str ++ ".".intercalate (segs ⟨op, v, w⟩)).toList := by rw [hT, hx]; simp
  have hkw : ∀ y ∈ "<empty>".toList, y.isDigit = false := by decide
  refine ⟨by rw [hT, Lex.parseClauseL_relText op _ hv.2.2 w, ← hv.eq_mk], Lex.parseAltsText_clean _ ?_
    (fun e => by rw [e] at hmem; cases hmem) (fun e => by rw [hkw x (e ▸ hmem)] at hxd; cases hxd)⟩
  rw [String.toList_append]
  exact (C11.opStr_clean _ (C11.ofCOp_cmp op).2).append (segs_clean _ hv.2.2)

theorem lexPrint_full (name : String) (c : Clause Ver) (hv : FinalV c.ver) (alts : List Alt)
    (h : SpecParse.parseAltsText ((MOp.ofCOp c.op).str ++ fsText name c) = some alts) :
    alts = [.clauses [fsC name c]] ∧
    SpecParse.parseClauseL ((MOp.ofCOp c.op).str ++ trimS (fsText name c)).toList = some (fsC name c) ∧
    (c.wild = true → c.op = .eq ∨ c.op = .ne) := by
  have hfv := fsC_final name c hv
  obtain ⟨_, hco, hcw⟩ := fsC_eqv name c
  obtain ⟨h1, h2⟩ := lex_clause (fsC name c) hfv
  rw [hco, ← fsText_eq name c hv] at h1 h2
  rw [hcw] at h1
  rw [h2, h1] at h
  by_cases hbad : c.wild = true ∧ ¬ (c.op = .eq ∨ c.op = .ne)
  · rw [if_pos hbad] at h; cases h
  · rw [if_neg hbad] at h h1
    cases h
    rw [C11.trimS_of_no_blank _ (fsText_eq name c hv ▸ segs_clean _ hfv.2.2).2.2]
    exact ⟨rfl, h1, fun hw => Decidable.not_not.1 fun hn => hbad ⟨hw, hn⟩⟩

theorem lexPrint_final (name : String) (c : Clause Ver) (hv : FinalV c.ver) (alts : List Alt)
    (h : SpecParse.parseAltsText ((MOp.ofCOp c.op).str ++ fsText name c) = some alts) :
    alts = [.clauses [fsC name c]] ∧
    SpecParse.parseClauseL ((MOp.ofCOp c.op).str ++ trimS (fsText name c)).toList = some (fsC name c) :=
  ⟨(lexPrint_full name c hv alts h).1, (lexPrint_full name c hv alts h).2.1⟩

theorem nice_fromClause (c : Clause Ver) (s : Spec Ver) (h : fromClause c = some s) (hfin : FinalV c.ver) :
    C06.Nice s :=
  ⟨fromClause_canon c s h, Spec.fromClause_textInv c s h, fromClause_final c s h hfin⟩

/-- `RangeSpecifier() & parsed` is the view `getSpecifier` takes of the clause -/
theorem nice_view (c : Clause Ver) (s : Spec Ver) (h : fromClause c = some s) (hfin : FinalV c.ver) :
    C06.Nice ((Spec.range {}).and s) :=
  C06.nice_and _ _ C06.nice_anyRange (nice_fromClause c s h hfin)

theorem simple_str (s : Spec Ver) (c : Clause Ver) (hs : s.isSimple = true) (hc : fsClause? s = some c) :
    Spec.str s = .alts [[c]] := by
  cases s with
  | empty => cases hc
  | any => cases hc
  | range r =>
    -- at most one clause, and `c` is the first
    simp only [Spec.isSimple, Range.isSimple, decide_eq_true_eq] at hs
    simp only [fsClause?] at hc
    simp only [Spec.str]
    generalize r.strClauses = l at hs hc
    match l, hc with
    | [_], hc => cases hc; rfl
    | _ :: _ :: _, _ => exact absurd hs (by simp)
  | union rs t => simp only [fsClause?] at hc; simp only [Spec.str, hc]

def HalfOpenR (r : Range Ver) : Prop := (r.min = none ∨ r.incMin = true) ∧ (r.max = none ∨ r.incMax = false)

def HalfOpen : Spec Ver → Prop
  | .range r => HalfOpenR r
  | .union rs _ => ∀ r ∈ rs, HalfOpenR r
  | _ => True

theorem mem_toL (s : Spec Ver) (v : Ver) : s.mem v ↔ ∃ r ∈ toL s, r.mem v := by
  cases s with
  | empty => exact ⟨False.elim, fun ⟨_, hr, _⟩ => nomatch hr⟩
  | any => exact ⟨fun _ => ⟨{}, .head _, trivial, trivial⟩, fun _ => trivial⟩
  | range x => exact ⟨fun h => ⟨x, .head _, h⟩, fun ⟨r, hr, h⟩ => List.mem_singleton.1 hr ▸ h⟩
  | union rs t => exact Iff.rfl

theorem allVers_toL (P : Ver → Prop) (s : Spec Ver) (h : s.AllVers P) : ∀ r ∈ toL s, r.AllVers P := by
  cases s with
  | empty => exact fun _ hr => nomatch hr
  | any => intro r hr; cases List.mem_singleton.1 hr; exact ⟨fun _ h => (nomatch h), fun _ h => (nomatch h), fun _ h => (nomatch h)⟩
  | range x => intro r hr; cases List.mem_singleton.1 hr; exact h
  | union rs t => exact h.1

theorem halfOpen_toL (s : Spec Ver) : HalfOpen s ↔ ∀ r ∈ toL s, HalfOpenR r := by
  cases s with
  | empty => exact ⟨fun _ _ hr => (nomatch hr), fun _ => trivial⟩
  | any => exact ⟨fun _ r hr => by cases List.mem_singleton.1 hr; exact ⟨.inl rfl, .inl rfl⟩, fun _ => trivial⟩
  | range x => exact ⟨fun h r hr => by cases List.mem_singleton.1 hr; exact h, fun h => h x (.head _)⟩
  | union rs t => exact Iff.rfl

/-- Where the one clause a specifier is written with comes from: the cache (of a range, of a union); or it
    is computed over a bound (`~=V` only for a half-open range); or it is a computed `!=V.*`. -/
theorem fsClause_cases (s : Spec Ver) (c : Clause Ver) (hc : fsClause? s = some c) :
    (∃ r, s = .range r ∧ r.text = some c) ∨ (∃ rs, s = .union rs (some c)) ∨
    (c.wild = false ∧ (c.op = .compat → HalfOpen s) ∧ ∃ x ∈ toL s, x.min = some c.ver ∨ x.max = some c.ver) ∨
    (c.wild = true ∧ HalfOpen s ∧ ∃ x ∈ toL s, ∃ lm rm, x.max = some lm ∧ wildForm lm rm = some c.ver) := by
  cases s with
  | empty => cases hc
  | any => cases hc
  | range r =>
    simp only [fsClause?] at hc
    cases ht : r.text with
    | some c0 =>
      simp only [Range.strClauses, ht, List.head?_cons, Option.some.injEq] at hc
      exact .inl ⟨r, rfl, hc ▸ ht⟩
    | none =>
      refine .inr (.inr (.inl ?_))
      have hf := strClauses_forms r ht
      cases hm : r.min <;> cases hM : r.max <;> simp only [hm, hM] at hf
      · rw [hf] at hc; cases hc
      · rw [hf] at hc; cases hc; exact ⟨rfl, by split <;> nofun, r, .head _, .inr hM⟩
      · rw [hf] at hc; cases hc; exact ⟨rfl, by split <;> nofun, r, .head _, .inl hm⟩
      · rcases hf with ⟨_, hstr⟩ | ⟨_, hi, hj, _, hstr⟩ | ⟨_, hstr⟩ <;> (rw [hstr] at hc; cases hc)
        · exact ⟨rfl, nofun, r, .head _, .inl hm⟩
        · exact ⟨rfl, fun _ => ⟨.inr hi, .inr hj⟩, r, .head _, .inl hm⟩
        · exact ⟨rfl, by split <;> nofun, r, .head _, .inl hm⟩
  | union rs t =>
    cases t with
    | some c0 => cases hc; exact .inr (.inl ⟨rs, rfl⟩)
    | none =>
      obtain ⟨left, right, lm, rm, rfl, hlmin, hrmax, hlmax, _, hform⟩ := unionSimplified_forms rs c hc
      rcases hform with ⟨_, rfl⟩ | ⟨_, hlj, hri, _, _, _, _, p, hp, rfl⟩
      · exact .inr (.inr (.inl ⟨rfl, nofun, left, .head _, .inr hlmax⟩))
      · exact .inr (.inr (.inr ⟨rfl, List.forall_mem_cons.2 ⟨⟨.inl hlmin, .inr hlj⟩,
          List.forall_mem_cons.2 ⟨⟨.inr hri, .inl hrmax⟩, fun _ h => nomatch h⟩⟩, left, .head _, lm, rm, hlmax, hp⟩))

theorem fsClause_ver (P : Ver → Prop) (s : Spec Ver) (c : Clause Ver) (hall : s.AllVers P)
    (hc : fsClause? s = some c) :
    P c.ver ∨ (c.wild = true ∧ ∃ lm rm, P lm ∧ wildForm lm rm = some c.ver) := by
  rcases fsClause_cases s c hc with ⟨r, rfl, ht⟩ | ⟨rs, rfl⟩ | ⟨_, _, x, hx, hb⟩ | ⟨hw, _, x, hx, lm, rm, hlm, hp⟩
  · exact .inl (hall.2.2 c ht)
  · exact .inl (hall.2 c rfl)
  · exact .inl (hb.elim ((allVers_toL P s hall x hx).1 _) ((allVers_toL P s hall x hx).2.1 _))
  · exact .inr ⟨hw, lm, rm, (allVers_toL P s hall x hx).2.1 _ hlm, hp⟩

theorem fsClause_final (s : Spec Ver) (c : Clause Ver) (hn : C06.Nice s) (hc : fsClause? s = some c) : FinalV c.ver := by
  rcases fsClause_ver FinalV s c (allVers_of_boundsIn FinalV s hn.finalBounds) hc with h | ⟨_, lm, rm, hlm, hp⟩
  · exact h
  · obtain ⟨w1, w2, w3⟩ := wildForm_shape lm rm c.ver hp
    exact ⟨w1, by rw [w2]; exact hlm.2.1, w3⟩

/-- a `Pv2` bound compares like `A.B`, and against `A.B` only the first two components of the candidate
    are looked at -/
theorem pv_cmp (b : Ver) (hb : Pv2 b) (X Y : Nat) (zs : List Nat) :
    (le b (fin [X, Y]) ↔ le b (fin (X :: Y :: zs))) ∧ (lt (fin [X, Y]) b ↔ lt (fin (X :: Y :: zs)) b) := by
  obtain ⟨⟨hf, he, _⟩, hz⟩ := hb
  have heq : eqv b (fin [nth0 b.release 0, nth0 b.release 1]) := by
    apply eqv_of_final_seq _ _ hf rfl (by simpa [fin] using he)
    intro i
    match i with
    | 0 => simp [fin]
    | 1 => simp [fin]
    | i + 2 => simp [fin, hz (i + 2) (by omega)]
  have h : le b (fin [X, Y]) ↔ le b (fin (X :: Y :: zs)) := by
    rw [le_congr_left heq, le_congr_left heq]; exact le_fin_two _ _ X Y zs
  exact ⟨h, not_congr h⟩

theorem HalfOpenR.mem_iff {r : Range Ver} (hh : HalfOpenR r) (v : Ver) :
    r.mem v ↔ (∀ m, r.min = some m → le m v) ∧ (∀ m, r.max = some m → lt v m) := by
  rcases r with ⟨m, M, i, j, t⟩
  obtain ⟨hm, hM⟩ := hh
  refine and_congr ?_ ?_
  · cases m with
    | none => simp
    | some a =>
      have : i = true := hm.resolve_left nofun
      subst this
      simpa using (le_iff_lt_or_eqv a v).symm
  · cases M with
    | none => simp
    | some b =>
      have : j = false := hM.resolve_left nofun
      subst this
      simp

theorem pvsem_halfopen (env : Env) (he : EnvTotal env) (s : Spec Ver) (hh : HalfOpen s) (hb : BoundsIn Pv2 s) :
    PvSem env (.ver s) := by
  intro pv f hpv hf
  obtain ⟨X, Y, zs, rfl, hpvv⟩ := he.py f hf
  rw [hpv] at hpvv; cases hpvv
  rw [mem_toL, mem_toL]
  refine exists_congr fun r => and_congr_right fun hr => ?_
  have hh' := (halfOpen_toL s).1 hh r hr
  have hb' := allVers_toL Pv2 s (allVers_of_boundsIn Pv2 s hb) r hr
  rw [hh'.mem_iff, hh'.mem_iff]
  exact and_congr (forall_congr' fun m => imp_congr_right fun hm => (pv_cmp m (hb'.1 m hm) X Y zs).1)
    (forall_congr' fun m => imp_congr_right fun hm => (pv_cmp m (hb'.2.1 m hm) X Y zs).2)

theorem fromClause_halfOpen (c : Clause Ver) (s : Spec Ver) (h : fromClause c = some s)
    (hr : (c.wild = true ∧ (c.op = .eq ∨ c.op = .ne)) ∨ c.op = .compat) : HalfOpen s := by
  rcases c with ⟨op, v, w⟩
  rcases hr with ⟨rfl, rfl | rfl⟩ | rfl <;> obtain ⟨mx, _, rfl⟩ := Option.map_eq_some_iff.1 h
  · exact ⟨.inr rfl, .inr rfl⟩
  · exact List.forall_mem_cons.2 ⟨⟨.inl rfl, .inr rfl⟩, List.forall_mem_cons.2 ⟨⟨.inr rfl, .inl rfl⟩, fun _ h => nomatch h⟩⟩
  · exact ⟨.inr rfl, .inr rfl⟩

/-- such a view does not tell `X.Y` from `X.Y.Z` (`pvsem_halfopen`) -/
theorem fromClause_short (c : Clause Ver) (s1 : Spec Ver) (hfc : fromClause c = some s1) (hfin : FinalV c.ver)
    (hshort : c.ver.release.length ≤ 2) (hr : (c.wild = true ∧ (c.op = .eq ∨ c.op = .ne)) ∨ c.op = .compat) :
    BoundsIn Pv2 s1 ∧ HalfOpen s1 := by
  have he : c.ver.epoch = 0 := hfin.2.1
  exact ⟨boundsIn_of_allVers _ _ <| fromClause_allVers Pv2 c s1 hfc
      ⟨hfin, fun i hi => nth0_beyond _ _ (by omega)⟩
      (fun _ => ⟨by rw [he]; exact releaseVersion_final _, releaseVersion_tail2 _ _ hshort⟩)
      (fun n mx hn h => ⟨nextSeries_final c.ver mx n he h, nextSeries_tail2 c.ver mx n (by omega) h⟩),
    fromClause_halfOpen c s1 hfc hr⟩

/-- what `_normalize_python_version_specifier` may return for an atom whose text lexes to the clause
    `c`: the atom's own view, or the parse of the structured normalisation `normClause2` -/
def NormShape (a : Atom) (c : Clause Ver) (ns : ASpec) : Prop :=
  (ns = a.spec ∧ (c.wild = true ∨ c.op = .compat) ∧ c.ver.release.length ≤ 2) ∨
  ∃ A B sn, c.wild = false ∧ c.op ≠ .compat ∧ c.ver.epoch = 0 ∧ c.ver.isFinal = true ∧
    (∀ i, nth0 c.ver.release i = nth0 [A, B] i) ∧
    fromClause (normClause2 c.op A B) = some sn ∧ ns = .ver ((Spec.range {}).and sn)

/-- the python_version atom `from_specifier` writes for the clause `c` -/
def pvAtom (c : Clause Ver) (spec : ASpec) : Atom :=
  ⟨"python_version", MOp.ofCOp c.op, fsText "python_version" c, false, spec⟩

/-- the string surgery of `_normalize_python_version_specifier` (split on `.`, drop trailing `0`
    segments, pad a lone major, `int(x) + 1`, re-join, re-parse), applied to the operand text
    `from_specifier` writes for a clause over a plain final release, computes `normClause2` -/
def LexNormOk : Prop :=
  ∀ (c : Clause Ver) (spec ns : ASpec), FinalV c.ver → (pvAtom c spec).WF →
    normalizePythonVersion (pvAtom c spec) = some ns → NormShape (pvAtom c spec) c ns

theorem normClause2_ok (cop : COp) (A B : Nat) : FinalV (normClause2 cop A B).ver ∧
    ((normClause2 cop A B).wild = true → (normClause2 cop A B).op = .eq ∨ (normClause2 cop A B).op = .ne) := by
  cases cop <;> exact ⟨⟨rfl, rfl, by simp [normClause2, fin]⟩, by simp [normClause2]⟩

theorem normGood_of_lex (env : Env) (he : EnvTotal env) (a : Atom) (c : Clause Ver)
    (hN : ∀ ns, normalizePythonVersion a = some ns → NormShape a c ns)
    (hw : a.WF) (hname : a.name = "python_version") (hop : a.op ≠ .in_ ∧ a.op ≠ .notIn)
    (hl : C11.LexOne a c) (hcoh : a.Coherent env) (hnice : a.spec.Canon)
    (hpv : (c.wild = true ∨ c.op = .compat) → c.ver.release.length ≤ 2 → PvSem env a.spec) :
    NormGood env a := by
  intro _ ns hns
  have hvl : versionLikeNames.contains a.name = true := by rw [hname]; decide
  have hvlf : versionLikeNames.contains "python_full_version" = true := by decide
  obtain ⟨f, hf⟩ : ∃ f, envVer env "python_full_version" = some f :=
    Option.isSome_iff_exists.1 (he.ver _ hvlf)
  obtain ⟨X, Y, zs, rfl, hpvv⟩ := he.py f hf
  obtain ⟨s0, hs0, hspec⟩ := C11.spec_of_lex a c hw hvl hop hl
  unfold Atom.Coherent at hcoh
  rw [hname] at hcoh
  rcases hN ns hns with ⟨rfl, hreason, hshort⟩ | ⟨A, B, sn, hwild, hnc, he0, hfin, hseq, hsn, rfl⟩
  · refine ⟨?_, hnice, ?_⟩
    · rw [hcoh, hspec, holds_ver, holds_ver, hf, hpvv]
      have hpv' := hpv hreason hshort
      rw [hspec] at hpv'
      exact (decide_eq_decide.2 (hpv' _ _ hpvv hf)).symm
    · rw [hspec]; exact hvlf
  · refine ⟨?_, ?_, hvlf⟩
    · -- the two readings through C04's leaf theorem and the normalisation theorem
      have heqv : eqv c.ver (fin [A, B]) := eqv_of_final_seq _ _ hfin rfl (by simpa [fin] using he0) hseq
      rw [hcoh, hspec]
      apply Option.some.inj
      rw [C11.holds_view env _ _ sn hsn _ hf rfl, C11.holds_view env _ c s0 hs0 _ hpvv rfl, ← pyNorm_sem c.op A B X Y zs,
        matchesFinal_congr c ⟨c.op, fin [A, B], false⟩ rfl hwild rfl hnc heqv]
    · exact nice_view _ _ hsn (normClause2_ok c.op A B).1

/-- **`from_specifier` means the specifier** (C11, specifier -> atom): for every version-like
    variable and every nice specifier, the marker `from_specifier` returns is made of good atoms and
    is satisfied exactly when the environment's version is admitted -/
theorem fromSpecOk_of_lex (env : Env) (he : EnvTotal env) (hN : LexNormOk) : FromSpecOk env := by
  intro name s m hvl hnice hm
  have hn : C06.Nice s := hnice
  obtain ⟨v, hv⟩ : ∃ v, envVer env name = some v := Option.isSome_iff_exists.1 (he.ver name hvl)
  have hholds : holds env name (.ver s) = decide (s.mem v) := by rw [holds_ver, hv]
  rcases fromSpecifier_ver name s m hm with ⟨hany, rfl⟩ | ⟨hemp, rfl⟩ | ⟨c, spec', hsimple', hc, hspec', rfl⟩
  · refine ⟨trivial, ?_⟩
    rw [hholds]
    exact (decide_eq_true ((C05.eq_sound .any s hany v).1 trivial)).symm
  · refine ⟨trivial, ?_⟩
    rw [hholds]
    cases s <;> first | rfl | cases hemp
  · -- the atom written: its text is read back as the clause `fsC name c` (`lexPrint_full`), so its view is that
    -- clause's object (`spec_of_lex`); `s` re-parses from what it renders as to an `==` object (`nice_roundtrips`) and
    -- padding the operand admits the same versions (`fromClause_fsC_mem`): the view admits what `s` admits; and the atom
    -- evaluates as its view says (`coherent_plain`)
    have hopn := C11.ofCOp_cmp c.op
    obtain ⟨alts, halts⟩ : ∃ alts, SpecParse.parseAltsText ((MOp.ofCOp c.op).str ++ fsText name c) = some alts := by
      rw [getSpecifier_cmp _ _ _ _ hvl hopn, Option.map_eq_some_iff] at hspec'
      obtain ⟨sp, hsp, _⟩ := hspec'
      obtain ⟨alts, halts, _⟩ := (parseSpecOpt_some _ sp).1 hsp
      exact ⟨alts, halts⟩
    have hcv := fsClause_final s c hn hc
    obtain ⟨rfl, hone, hwildop⟩ := lexPrint_full name c hcv alts halts
    obtain ⟨s1, hfc', hspec⟩ := C11.spec_of_lex ⟨name, MOp.ofCOp c.op, fsText name c, false, spec'⟩ (fsC name c)
      hspec' hvl hopn ⟨halts, hone⟩
    simp only at hspec
    subst hspec
    -- what `s` renders as, and that it re-parses to an equal object
    obtain ⟨s'', hparse, hbeq, _⟩ := C06.nice_roundtrips s hn
    rw [simple_str s c hsimple' hc, C06.parse_one_alt, fromSpecifierSet_one, Option.map_eq_some_iff] at hparse
    obtain ⟨s0, hfc, rfl⟩ := hparse
    have hmem : ((Spec.range {}).and s1).mem v ↔ s.mem v := by
      rw [Spec.any_and_mem, fromClause_fsC_mem name c s0 s1 hfc hfc' v, ← Spec.any_and_mem s0 v]
      exact C05.eq_sound _ _ hbeq v
    let a' : Atom := ⟨name, MOp.ofCOp c.op, fsText name c, false, .ver ((Spec.range {}).and s1)⟩
    have hwf : a'.WF := hspec'
    have hcoh : a'.Coherent env := by
      obtain ⟨t, ht⟩ := C11.envVer_some hv
      exact C11.coherent_plain env a' (fsC name c) hwf hvl hopn rfl ⟨halts, hone⟩ t v ht.1 ht.2 (he.verFinal name v hv)
    have hgood : GoodAtom env a' := by
      refine .of_versionLike hwf hvl ?_
      have hnice' : (ASpec.ver ((Spec.range {}).and s1)).Canon :=
        nice_view _ _ hfc' (fsC_final name c hcv)
      refine Or.inr ⟨hcoh, hnice', fun (hnm : name = "python_version") => ?_⟩
      have hfsC : fsC name c = c := hnm ▸ fsC_pv c
      refine normGood_of_lex env he a' (fsC name c) ?_ hwf hnm hopn ⟨halts, hone⟩ hcoh hnice' ?_ hnm
      · intro ns hns
        rw [hfsC]
        subst hnm
        exact hN c _ ns hcv hwf hns
      · -- unchanged: a wildcard / `~=` clause over at most two components, so the view is saturated
        rw [hfsC]
        intro hreason hshort pv f hpv hf
        obtain ⟨hb1, hh1⟩ := fromClause_short c s1 (hfsC ▸ hfc') hcv hshort (hreason.imp (fun hw => ⟨hw, hwildop hw⟩) id)
        rw [Spec.any_and_mem, Spec.any_and_mem]
        exact pvsem_halfopen env he s1 hh1 hb1 pv f hpv hf
    refine ⟨hgood, ?_⟩
    have := hcoh
    unfold Atom.Coherent at this
    rw [this, hholds, holds_ver, hv]
    exact decide_eq_decide.2 hmem

theorem pyMergeOk_of_fromSpec (env : Env) (he : EnvTotal env) (hF : FromSpecOk env) : PyMergeOk env := by
  intro a b isAnd m ha hb hxa hxb hpair h
  obtain ⟨vm, fm, ns, r, hvf, hnv, hnf, hns, hr, h⟩ := mergePythonVersion_inv a b isAnd m hpair h
  have key : GoodAtom env vm → GoodAtom env fm → vm.exactView = true → fm.exactView = true →
      GAll (Good env) m ∧ sem env m = bop isAnd (sem env (.expr vm)) (sem env (.expr fm)) := by
    intro hvm hfm hxv hxf
    obtain ⟨_, _, _, _, hnorm⟩ := good_versionLike env vm hvm (by rw [hnv]; decide) hxv
    obtain ⟨hh, nn, _⟩ := hnorm hnv ns hns
    obtain ⟨sf, hsf, nf, cf, _⟩ := good_versionLike env fm hfm (by rw [hnf]; decide) hxf
    rw [hnf] at cf
    rw [hsf] at hr
    cases ns with
    | gen g => cases isAnd <;> cases hr
    | ver sn =>
      -- both views are read on python_full_version
      obtain ⟨r', hr', hom, hbeq, hfrom⟩ := ver_reading env he hF "python_full_version" (by decide) isAnd sn sf nn nf
      cases hr.symm.trans hr'
      rw [← hh, cf, ← hom]
      exact ite_some h (fun e => ⟨hvm, hh.symm.trans (hbeq sn e).symm⟩) fun _ => hfrom m
  rcases hvf with ⟨rfl, rfl⟩ | ⟨rfl, rfl⟩
  · exact key ha hb hxa hxb
  · exact (key hb ha hxb hxa).imp_right fun e => e.trans (bop_comm ..)

/-! Side results, not used by `fromSpecOk_of_lex`: two-component bounds and half-open ranges for a
    view known only up to `==`. -/

theorem pv2_of_eqv (x y : Ver) (hx : FinalV x) (hy : Pv2 y) (h : eqv x y) : Pv2 x :=
  ⟨hx, fun i hi => ((eqv_final_iff x y hx.1 hy.1.1).1 h (i + 1)).trans (hy.2 i hi)⟩

theorem Range.bound_of_ends {x r : Range Ver} (h1 : eqv x.lo r.lo) (h2 : eqv x.hi r.hi) :
    (∀ m, x.min = some m → ∃ m', r.min = some m' ∧ eqv m m') ∧
    (∀ m, x.max = some m → ∃ m', r.max = some m' ∧ eqv m m') := by
  have l := ((Range.lower_eqv ..).1 h1).1
  have u := ((Range.upper_eqv ..).1 h2).1
  constructor
  · intro m hm; rw [hm] at l
    cases hr : r.min with
    | none => rw [hr] at l; cases l
    | some m' => rw [hr] at l; exact ⟨m', rfl, of_decide_eq_true l⟩
  · intro m hm; rw [hm] at u
    cases hr : r.max with
    | none => rw [hr] at u; cases u
    | some m' => rw [hr] at u; exact ⟨m', rfl, of_decide_eq_true u⟩

theorem pv2_bounds_of_beq (a b : Spec Ver) (h : a.beq b = true) (ha : a.AllVers FinalV) (hb : b.AllVers Pv2) :
    ∀ x ∈ toL a, (∀ m, x.min = some m → Pv2 m) ∧ (∀ m, x.max = some m → Pv2 m) := by
  intro x hx
  obtain ⟨r, hr, e1, e2⟩ := Spec.ends_of_beq a b h x hx
  obtain ⟨bm, bM⟩ := Range.bound_of_ends e1 e2
  have hxa := allVers_toL FinalV a ha x hx
  have hrb := allVers_toL Pv2 b hb r hr
  exact ⟨fun m hm => let ⟨m', hm', he⟩ := bm m hm; pv2_of_eqv m m' (hxa.1 m hm) (hrb.1 m' hm') he,
    fun m hm => let ⟨m', hm', he⟩ := bM m hm; pv2_of_eqv m m' (hxa.2.1 m hm) (hrb.2.1 m' hm') he⟩

theorem fromClause_pv2 (c : Clause Ver) (s1 s : Spec Ver) (hfc : fromClause c = some s1) (hfin : FinalV c.ver)
    (hb : BoundsIn Pv2 s) (hbeq : s1.beq s = true) : BoundsIn Pv2 s1 := by
  have hfb := allVers_of_boundsIn FinalV s1 (fromClause_final c s1 hfc hfin)
  have hbounds := pv2_bounds_of_beq s1 s hbeq hfb (allVers_of_boundsIn Pv2 s hb)
  obtain ⟨r, hr, rfl⟩ := fromClause_some c s1 hfc
  -- the bounds of the clause's interval are bounds of what is built from it
  have hrb : (∀ m, r.min = some m → Pv2 m) ∧ (∀ m, r.max = some m → Pv2 m) := by
    unfold ofClauseRange at hbounds
    by_cases hne : c.op = .ne
    · rcases c with ⟨op, v, w⟩
      cases hne
      obtain ⟨lo, hi, hlo, hhi⟩ := clauseRange_ne v w r hr
      rw [if_pos rfl] at hbounds
      simp only [Spec.invert, invertRange, hlo, hhi, Spec.withText, toL] at hbounds
      exact ⟨fun m hm => (hbounds ⟨none, some lo, false, !r.incMin, none⟩ (by simp)).2 m (hlo ▸ hm),
        fun m hm => (hbounds ⟨some hi, none, !r.incMax, false, none⟩ (by simp)).1 m (hhi ▸ hm)⟩
    · rw [if_neg hne] at hbounds; exact hbounds { r with text := some c } (by simp [Spec.withText, toL])
  -- and the clause's own version is one of them, up to its `.0` spelling
  have hcv : Pv2 c.ver := by
    cases clauseRange_shape c r hr with
    | lower i => exact hrb.1 _ rfl
    | upper j => exact hrb.2 _ rfl
    | point => exact hrb.1 _ rfl
    | series lo n mx hlo hn hmx =>
      rcases hlo with rfl | ⟨_, rfl⟩
      · exact hrb.1 _ rfl
      · refine ⟨hfin, fun i hi => ?_⟩
        have := (hrb.1 _ rfl).2 i hi
        rwa [show (Ver.releaseVersion c.ver.epoch c.ver.release).release = c.ver.release ++ [0] from rfl,
          nth0_append_zero] at this
  exact boundsIn_of_allVers _ _ (ofClauseRange_allVers Pv2 c r
    ⟨hrb.1, hrb.2, fun c' hc' => by rw [clauseRange_text c r hr] at hc'; cases hc'⟩ hcv)

theorem fsClause_pv2_plain (s : Spec Ver) (c : Clause Ver) (hb : BoundsIn Pv2 s) (hc : fsClause? s = some c)
    (hw : c.wild = false) : Pv2 c.ver :=
  (fsClause_ver Pv2 s c (allVers_of_boundsIn Pv2 s hb) hc).resolve_right fun h => by simp [hw] at h

/-- equivalent lower ends: both unbounded, or both bounded with the same inclusiveness; the same above -/
theorem HalfOpenR.of_ends {x r : Range Ver} (hx : HalfOpenR x) (h1 : eqv x.lo r.lo) (h2 : eqv x.hi r.hi) : HalfOpenR r := by
  rcases x with ⟨m, M, i, j, _⟩; rcases r with ⟨m', M', i', j', _⟩
  obtain ⟨l1, l2⟩ := (Range.lower_eqv m m' i i').1 h1
  obtain ⟨u1, u2⟩ := (Range.upper_eqv M M' j j').1 h2
  refine ⟨?_, ?_⟩
  · cases m' with
    | none => exact .inl rfl
    | some _ => cases m with
      | none => cases l1
      | some _ => exact .inr (l2 rfl ▸ hx.1.resolve_left nofun)
  · cases M' with
    | none => exact .inl rfl
    | some _ => cases M with
      | none => cases u1
      | some _ => exact .inr (u2 rfl ▸ hx.2.resolve_left nofun)

theorem HalfOpen.of_beq {a b : Spec Ver} (ha : HalfOpen a) (hb : a.beq b = true) : HalfOpen b := by
  rw [halfOpen_toL] at ha ⊢
  intro r hr
  obtain ⟨x, hx, e1, e2⟩ := Spec.ends_of_beq b a (Spec.beq_symm a b ▸ hb) r hr
  exact (ha x hx).of_ends e1.symm e2.symm

theorem render_halfopen (s : Spec Ver) (c : Clause Ver) (hn : C06.Nice s) (hc : fsClause? s = some c)
    (hr : (c.wild = true ∧ (c.op = .eq ∨ c.op = .ne)) ∨ c.op = .compat) : HalfOpen s := by
  rcases fsClause_cases s c hc with ⟨r, rfl, ht⟩ | ⟨rs, rfl⟩ | ⟨hw, hcmp, _⟩ | ⟨_, hh, _⟩
  · -- a cached clause: what it parses to is half-open, and `==` to this object
    obtain ⟨x, hx, hb⟩ := hn.text c ht
    exact (fromClause_halfOpen c _ hx hr).of_beq (b := .range r) hb
  · obtain ⟨ys, yt, hy, hb⟩ := hn.text.2 c rfl
    exact (fromClause_halfOpen c _ hy hr).of_beq hb
  · exact hcmp (hr.resolve_left fun h => by rw [hw] at h; cases h.1)
  · exact hh

end M
end DepLogic
