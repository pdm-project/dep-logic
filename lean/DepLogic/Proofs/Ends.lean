import DepLogic.Model.Spec
/-
  A range as a pair of ENDS on one line.

  `Cut α`: the cut `(x, s)` is the position just below (`s = 0`), at (`s = 1`) or just above (`s ≥ 2`)
  the bound `x`.  `Pos α` is that line on a doubled scale (the cut `(x, s)` at `(x, 2 s)`) closed off
  by the two infinities, so that the ends of ranges fit strictly between cuts: the lower end of
  `[m, …` at `(m, 1)`, that of `(m, …` at `(m, 3)`, upper ends the other way round, an unbounded side
  at an infinity.  Every predicate of `range.py` is then one comparison of ends (the `_iff` lemmas),
  and `&`, `|` are order arguments (Proofs/RangeLemmas.lean).
-/
namespace DepLogic
open LinPre

namespace LinPre
variable {α : Type} [LinPre α] {a b c : α}
theorem le_of_lt (h : lt a b) : le a b := (le_total a b).resolve_right h
theorem lt_of_le_of_lt (h1 : le a b) (h2 : lt b c) : lt a c := fun h => h2 (le_trans _ _ _ h h1)
theorem lt_of_lt_of_le (h1 : lt a b) (h2 : le b c) : lt a c := fun h => h1 (le_trans _ _ _ h2 h)
theorem lt_trans (h1 : lt a b) (h2 : lt b c) : lt a c := lt_of_lt_of_le h1 (le_of_lt h2)
theorem le_iff_not_lt (a b : α) : le a b ↔ ¬ lt b a := Decidable.not_not.symm
theorem le_iff_lt_or_eqv (a b : α) : le a b ↔ (lt a b ∨ eqv a b) :=
  ⟨fun h => (Decidable.em (le b a)).symm.imp id (fun h2 => ⟨h, h2⟩), fun h => h.elim le_of_lt (·.1)⟩
theorem le_congr_left {x y : α} (h : eqv x y) (v : α) : le x v ↔ le y v :=
  ⟨le_trans _ _ _ h.2, le_trans _ _ _ h.1⟩
theorem le_congr_right {x y : α} (h : eqv x y) (v : α) : le v x ↔ le v y :=
  ⟨fun k => le_trans _ _ _ k h.1, fun k => le_trans _ _ _ k h.2⟩

theorem max_lt_iff {p : α} (hc : c = a ∨ c = b) (ha : le a c) (hb : le b c) : lt c p ↔ lt a p ∧ lt b p :=
  ⟨fun h => ⟨lt_of_le_of_lt ha h, lt_of_le_of_lt hb h⟩, fun h => hc.elim (· ▸ h.1) (· ▸ h.2)⟩
theorem lt_min_iff {p : α} (hc : c = a ∨ c = b) (ha : le c a) (hb : le c b) : lt p c ↔ lt p a ∧ lt p b :=
  ⟨fun h => ⟨lt_of_lt_of_le h ha, lt_of_lt_of_le h hb⟩, fun h => hc.elim (· ▸ h.1) (· ▸ h.2)⟩
theorem min_lt_iff {p : α} (hc : c = a ∨ c = b) (ha : le c a) (hb : le c b) : lt c p ↔ lt a p ∨ lt b p :=
  ⟨fun h => hc.elim (fun e => .inl (e ▸ h)) (fun e => .inr (e ▸ h)), fun h => h.elim (lt_of_le_of_lt ha) (lt_of_le_of_lt hb)⟩
theorem lt_max_iff {p : α} (hc : c = a ∨ c = b) (ha : le a c) (hb : le b c) : lt p c ↔ lt p a ∨ lt p b :=
  ⟨fun h => hc.elim (fun e => .inl (e ▸ h)) (fun e => .inr (e ▸ h)), fun h => h.elim (lt_of_lt_of_le · ha) (lt_of_lt_of_le · hb)⟩
end LinPre

/-- `side` is a `Nat` so that the order is the lexicographic one; all sides from 2 on mean the same -/
structure Cut (α : Type) where
  pt : α
  side : Nat

namespace Cut
variable {α : Type} [LinPre α]

instance : LinPre (Cut α) where
  le a b := lt a.pt b.pt ∨ (eqv a.pt b.pt ∧ a.side ≤ b.side)
  decLe := fun a b => inferInstanceAs (Decidable (lt a.pt b.pt ∨ (eqv a.pt b.pt ∧ a.side ≤ b.side)))
  le_refl := fun a => Or.inr ⟨⟨LinPre.le_refl _, LinPre.le_refl _⟩, Nat.le_refl _⟩
  le_trans := by
    intro a b c h1 h2
    have t1 := @LinPre.le_trans α _
    have t2 := @LinPre.le_total α _
    simp only [lt, eqv] at *
    grind
  le_total := by
    intro a b
    have t2 := @LinPre.le_total α _
    simp only [lt, eqv] at *
    grind

theorem le_def (a b : Cut α) : le a b ↔ (lt a.pt b.pt ∨ (eqv a.pt b.pt ∧ a.side ≤ b.side)) := Iff.rfl
end Cut

/-- inside `Pos.cut` the side is on the doubled scale -/
inductive Pos (α : Type) where
  | bot | cut (c : Cut α) | top

namespace Pos
variable {α : Type} [LinPre α]

protected def le : Pos α → Pos α → Prop
  | bot, _ => True
  | cut _, bot => False
  | cut a, cut b => LinPre.le a b
  | cut _, top => True
  | top, top => True
  | top, _ => False

instance : LinPre (Pos α) where
  le := Pos.le
  decLe := fun a b => by cases a <;> cases b <;> unfold Pos.le <;> exact inferInstance
  le_refl := fun a => by cases a <;> simp [Pos.le, LinPre.le_refl]
  le_trans := fun a b c => by
    cases a <;> cases b <;> cases c <;> simp [Pos.le]; exact LinPre.le_trans _ _ _
  le_total := fun a b => by cases a <;> cases b <;> simp [Pos.le]; exact LinPre.le_total _ _

@[simp] theorem bot_le (a : Pos α) : le bot a := trivial
@[simp] theorem le_top (a : Pos α) : le a top := by cases a <;> trivial
@[simp] theorem cut_le_cut (a b : Cut α) : le (cut a) (cut b) ↔ le a b := Iff.rfl
@[simp] theorem not_cut_le_bot (a : Cut α) : ¬ le (cut a) bot := id
@[simp] theorem not_top_le_cut (a : Cut α) : ¬ le top (cut a) := id
@[simp] theorem not_top_le_bot : ¬ le (top : Pos α) bot := id

theorem cut_lt_cut (a b : Cut α) : lt (cut a) (cut b) ↔ lt a.pt b.pt ∨ (eqv a.pt b.pt ∧ a.side < b.side) := by
  have tot := @LinPre.le_total α _
  simp only [lt, cut_le_cut, Cut.le_def, eqv]
  grind

def ofCut (c : Cut α) : Pos α := .cut ⟨c.pt, 2 * c.side⟩
/-- where the version `v` sits: `(v, 2)` -/
def pt (v : α) : Pos α := ofCut ⟨v, 1⟩
def lower (m : Option α) (inc : Bool) : Pos α :=
  match m with | none => .bot | some x => .cut ⟨x, if inc then 1 else 3⟩
def upper (m : Option α) (inc : Bool) : Pos α :=
  match m with | none => .top | some x => .cut ⟨x, if inc then 3 else 1⟩


omit [LinPre α] in
theorem lower_not (m : α) (i : Bool) : lower (some m) (!i) = upper (some m) i := by
  cases i <;> rfl
omit [LinPre α] in
theorem upper_not (m : α) (i : Bool) : upper (some m) (!i) = lower (some m) i := by
  cases i <;> rfl

end Pos

namespace Range
variable {α : Type} [LinPre α]

def lo (r : Range α) : Pos α := Pos.lower r.min r.incMin
def hi (r : Range α) : Pos α := Pos.upper r.max r.incMax

omit [LinPre α] in
theorem lo_eq_bot {r : Range α} (h : r.min = none) : r.lo = .bot := by unfold lo; rw [h]; rfl
omit [LinPre α] in
theorem hi_eq_top {r : Range α} (h : r.max = none) : r.hi = .top := by unfold hi; rw [h]; rfl

omit [LinPre α] in
theorem isAny_iff (r : Range α) : r.isAny = true ↔ r.lo = .bot ∧ r.hi = .top := by
  rcases r with ⟨m, M, i, j, t⟩
  cases m <;> cases M <;> simp [isAny, lo, hi, Pos.lower, Pos.upper]

/-- every position that is not an infinity lies between the ends of a universal range -/
theorem isAny_between {r : Range α} (h : r.isAny = true) (c : Cut α) : lt r.lo (.cut c) ∧ lt (.cut c) r.hi := by
  obtain ⟨e1, e2⟩ := (isAny_iff r).1 h
  rw [e1, e2]; exact ⟨Pos.not_cut_le_bot c, Pos.not_top_le_cut c⟩

/-- Closes a comparison of ends once every bound concerned is an explicit `none` or `some m` (after `cases`):
    what remains is the order of `α` with arithmetic on the sides 1, 2, 3. -/
macro "ends_tac" : tactic => `(tactic|
  (have tot := @LinPre.le_total _ ‹LinPre _›
   simp [lo, hi, Pos.lower, Pos.upper, Pos.pt, Pos.ofCut, Cut.le_def, lt, eqv] <;> grind))

theorem mem_iff (r : Range α) (v : α) : r.mem v ↔ lt r.lo (Pos.pt v) ∧ lt (Pos.pt v) r.hi := by
  rcases r with ⟨m, M, i, j, t⟩
  cases m <;> cases M <;> simp only [mem] <;> ends_tac

theorem allowsLower_iff (s o : Range α) : s.allowsLower o = true ↔ lt s.lo o.lo := by
  rcases s with ⟨m, M, i, j, t⟩; rcases o with ⟨m', M', i', j', t'⟩
  cases m <;> cases m' <;> simp only [allowsLower] <;> ends_tac

theorem allowsHigher_iff (s o : Range α) : s.allowsHigher o = true ↔ lt o.hi s.hi := by
  rcases s with ⟨m, M, i, j, t⟩; rcases o with ⟨m', M', i', j', t'⟩
  cases M <;> cases M' <;> simp only [allowsHigher] <;> ends_tac

theorem isStrictlyLower_iff (s o : Range α) : s.isStrictlyLower o = true ↔ le s.hi o.lo := by
  rcases s with ⟨m, M, i, j, t⟩; rcases o with ⟨m', M', i', j', t'⟩
  cases M <;> cases m' <;> simp only [isStrictlyLower] <;> ends_tac

theorem isAdjacentTo_iff (s o : Range α) : s.isAdjacentTo o = true ↔ eqv s.hi o.lo := by
  rcases s with ⟨m, M, i, j, t⟩; rcases o with ⟨m', M', i', j', t'⟩
  cases M <;> cases m' <;> simp only [isAdjacentTo] <;> ends_tac

theorem isSuperset_iff (s o : Range α) : s.isSuperset o = true ↔ le s.lo o.lo ∧ le o.hi s.hi := by
  rcases s with ⟨m, M, i, j, t⟩; rcases o with ⟨m', M', i', j', t'⟩
  simp only [isSuperset, Bool.and_eq_true]
  refine and_congr ?_ ?_
  · cases m <;> cases m' <;> ends_tac
  · cases M <;> cases M' <;> ends_tac

theorem sep_iff (a b : Range α) : Spec.sep a b ↔ lt a.hi b.lo := by
  rcases a with ⟨m, M, i, j, t⟩; rcases b with ⟨m', M', i', j', t'⟩
  cases M <;> cases m' <;> simp only [Spec.sep] <;> ends_tac

omit [LinPre α] in
/-- the constructor guard: no inclusive flag on an unbounded side -/
theorem ctorOk_iff (r : Range α) :
    r.ctorOk = true ↔ (r.min = none → r.incMin = false) ∧ (r.max = none → r.incMax = false) := by
  simp only [ctorOk, Bool.and_eq_true, Bool.not_eq_true', Bool.and_eq_false_imp, Option.isNone_iff_eq_none]

theorem WF_iff (r : Range α) : r.WF ↔ r.ctorOk = true ∧ lt r.lo r.hi := by
  rcases r with ⟨m, M, i, j, t⟩
  cases m <;> cases M <;> simp only [WF] <;> ends_tac

theorem WF.lt {r : Range α} (h : r.WF) : lt r.lo r.hi := ((WF_iff r).1 h).2
theorem WF_any : ({} : Range α).WF := ⟨rfl, trivial⟩
theorem _root_.DepLogic.Spec.sep.lt {a b : Range α} (h : Spec.sep a b) : lt a.hi b.lo := (sep_iff a b).1 h

/-- an end never sits where a version sits -/
theorem lo_pt (r : Range α) (v : α) (h : le r.lo (Pos.pt v)) : lt r.lo (Pos.pt v) := by
  rcases r with ⟨m, M, i, j, t⟩
  cases m <;> revert h <;> ends_tac
theorem pt_hi (r : Range α) (v : α) (h : le (Pos.pt v) r.hi) : lt (Pos.pt v) r.hi := by
  rcases r with ⟨m, M, i, j, t⟩
  cases M <;> revert h <;> ends_tac

end Range
end DepLogic
