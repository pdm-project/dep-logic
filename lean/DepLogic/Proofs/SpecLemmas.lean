import DepLogic.Proofs.RangeLemmas
/-
  List-level lemmas: the pairwise product of `UnionSpecifier.__and__` and the ordered
  merge loop of `UnionSpecifier.__or__` (the gap walk of `__invert__`: Proofs/InvertLemmas.lean).
-/
namespace DepLogic
open LinPre
namespace Spec
variable {α : Type} [LinPre α]

def LMem (rs : List (Range α)) (v : α) : Prop := ∃ r ∈ rs, r.mem v

/-- the list part of `Canon` -/
def Good (rs : List (Range α)) : Prop := (∀ r ∈ rs, r.WF) ∧ rs.Pairwise sep

theorem good_cons {r : Range α} {rs : List (Range α)} : Good (r :: rs) ↔ r.WF ∧ (∀ x ∈ rs, sep r x) ∧ Good rs := by
  simp only [Good, List.forall_mem_cons, List.pairwise_cons]
  exact and_and_and_comm.trans and_assoc

theorem good_singleton (r : Range α) (h : r.WF) : Good [r] := good_cons.2 ⟨h, by simp, by simp [Good]⟩

@[simp] theorem LMem_nil (v : α) : LMem ([] : List (Range α)) v ↔ False := by simp [LMem]

@[simp] theorem LMem_cons (r : Range α) (rs : List (Range α)) (v : α) : LMem (r :: rs) v ↔ (r.mem v ∨ LMem rs v) := by
  simp [LMem]

theorem LMem_singleton (r : Range α) (v : α) : LMem [r] v ↔ r.mem v := by simp [LMem]

theorem fromRanges_mem (rs : List (Range α)) (v : α) : (fromRanges rs).mem v ↔ LMem rs v := by
  match rs with
  | [] => simp [fromRanges, mem, LMem]
  | [r] => simp [fromRanges, mem, LMem]
  | a :: b :: rest => simp [fromRanges, mem, LMem]

theorem fromRanges_canon (rs : List (Range α)) (h : Good rs) : Canon (fromRanges rs) := by
  match rs with
  | [] => simp [fromRanges, Canon]
  | [r] => simpa [fromRanges, Canon, Good] using h.1
  | a :: b :: rest =>
    simp only [fromRanges, Canon]
    exact ⟨by simp, h.1, h.2⟩

omit [LinPre α] in
theorem fromRanges_isEmpty (rs : List (Range α)) : (fromRanges rs).isEmpty = rs.isEmpty := by
  match rs with
  | [] => rfl
  | [r] => rfl
  | a :: b :: rest => rfl

theorem mem_andProduct {xs ys : List (Range α)} {r : Range α} :
    r ∈ andProduct xs ys ↔ ∃ a ∈ xs, ∃ b ∈ ys, a.and b = some r := by
  simp only [andProduct, List.mem_flatMap, List.mem_filterMap]

theorem andProduct_mem (xs ys : List (Range α)) (v : α) :
    LMem (andProduct xs ys) v ↔ (LMem xs v ∧ LMem ys v) := by
  constructor
  · rintro ⟨r, hr, hv⟩
    obtain ⟨a, ha, b, hb, hab⟩ := mem_andProduct.1 hr
    have := ((Range.and_some hab).mem v).1 hv
    exact ⟨⟨a, ha, this.1⟩, ⟨b, hb, this.2⟩⟩
  · rintro ⟨⟨a, ha, hav⟩, ⟨b, hb, hbv⟩⟩
    cases hab : a.and b with
    | none => exact (Range.and_none hab v ⟨hav, hbv⟩).elim
    | some r => exact ⟨r, mem_andProduct.2 ⟨a, ha, b, hb, hab⟩, ((Range.and_some hab).mem v).2 ⟨hav, hbv⟩⟩

/-- The product is ordered first by the left factor, then by the right one, and an intersection ends
    no later, and starts no earlier, than either factor. -/
theorem andProduct_good (xs ys : List (Range α)) (hx : Good xs) (hy : Good ys) :
    Good (andProduct xs ys) := by
  constructor
  · intro r hr
    obtain ⟨a, ha, b, hb, hab⟩ := mem_andProduct.1 hr
    exact (Range.and_some hab).WF (hx.1 a ha) (hy.1 b hb)
  · unfold andProduct
    rw [List.pairwise_flatMap]
    constructor
    · intro a _
      rw [List.pairwise_filterMap]
      refine hy.2.imp fun {b b'} hbb r hr r' hr' => (Range.sep_iff r r').2 ?_
      exact lt_of_le_of_lt (Range.and_some hr).hi_right
        (lt_of_lt_of_le hbb.lt (Range.and_some hr').lo_right)
    · refine hx.2.imp fun {a a'} haa r hr r' hr' => (Range.sep_iff r r').2 ?_
      obtain ⟨b, _, hab⟩ := List.mem_filterMap.1 hr
      obtain ⟨b', _, hab'⟩ := List.mem_filterMap.1 hr'
      exact lt_of_le_of_lt (Range.and_some hab).hi_left
        (lt_of_lt_of_le haa.lt (Range.and_some hab').lo_left)

theorem andProduct_isEmpty (xs ys : List (Range α)) :
    (andProduct xs ys).isEmpty = true ↔ ∀ a ∈ xs, ∀ b ∈ ys, (a.and b).isNone = true := by
  simp only [andProduct, List.isEmpty_iff, List.flatMap_eq_nil_iff, List.filterMap_eq_nil_iff, Option.isNone_iff_eq_none]

theorem andProduct_isEmpty_comm (xs ys : List (Range α)) :
    (andProduct xs ys).isEmpty = (andProduct ys xs).isEmpty := by
  have key : ∀ (xs ys : List (Range α)), (andProduct xs ys).isEmpty = true → (andProduct ys xs).isEmpty = true := by
    intro xs ys h
    rw [andProduct_isEmpty] at h ⊢
    intro b hb a ha
    rw [Range.and_isNone_comm]
    exact h a ha b hb
  exact Bool.eq_iff_iff.2 ⟨key xs ys, key ys xs⟩

/-- The last conjunct is what the last branch needs to put `r` back in front of its recursive result. -/
theorem orLoop_spec (o : Range α) (xs : List (Range α)) (ho : o.WF) (hx : Good xs) :
    ∃ ys, orLoop o xs = some ys ∧ Good ys ∧ (∀ v, LMem ys v ↔ (o.mem v ∨ LMem xs v)) ∧
      (∀ c : Range α, sep c o → (∀ x ∈ xs, sep c x) → ∀ y ∈ ys, sep c y) := by
  fun_induction orLoop o xs with
  | case1 o =>
    exact ⟨[o], rfl, good_singleton o ho, fun v => LMem_cons .., fun c hc _ => List.forall_mem_singleton.2 hc⟩
  | case2 o r rest hc x hor ih =>
    -- `o | r` is one range `x`; go on with `x`
    obtain ⟨hr, _, hrest⟩ := good_cons.1 hx
    have hx' := Range.or_one hor
    obtain ⟨ys, hys, hg, hm, hs⟩ := ih (hx'.WF ho hr) hrest
    refine ⟨ys, hys, hg, fun v => by rw [hm v, hx'.mem ho hr v, LMem_cons, or_assoc], fun c hco hcx => ?_⟩
    rw [List.forall_mem_cons] at hcx
    exact hs c (hx'.sep_left hco hcx.1) hcx.2
  | case3 o r rest hc a b hor =>
    exact (Range.or_ne_two_of_canCombine ho (good_cons.1 hx).1 hc hor).elim
  | case4 o r rest hc hl =>
    -- `o` lies wholly before `r`, hence before the rest
    obtain ⟨hr, hrsep, _⟩ := good_cons.1 hx
    have hsep := (Range.sep_of_not_canCombine r o hr ho hc).1 hl
    refine ⟨o :: r :: rest, rfl, good_cons.2 ⟨ho, List.forall_mem_cons.2 ⟨hsep, fun x h => ?_⟩, hx⟩,
      fun v => LMem_cons .., fun c hco hcx => List.forall_mem_cons.2 ⟨hco, hcx⟩⟩
    exact Range.sep_trans o r x hr hsep (hrsep x h)
  | case5 o r rest hc hl ih =>
    -- `r` lies wholly before `o`: keep `r`, insert `o` in the rest
    obtain ⟨hr, hrsep, hrest⟩ := good_cons.1 hx
    have hsep := (Range.sep_of_not_canCombine r o hr ho hc).2 hl
    obtain ⟨ys, hys, hg, hm, hs⟩ := ih ho hrest
    refine ⟨r :: ys, by rw [hys]; rfl, good_cons.2 ⟨hr, hs r hsep hrsep, hg⟩,
      fun v => by rw [LMem_cons, LMem_cons, hm v, or_left_comm], fun c hco hcx => ?_⟩
    rw [List.forall_mem_cons] at hcx
    exact List.forall_mem_cons.2 ⟨hcx.1, hs c hco hcx.2⟩
end Spec
end DepLogic
