import DepLogic.Proofs.MarkerEngine
/-
  Inductive step of the engine soundness proof: `SoundB env G n → SoundB env G (n + 1)`.
-/
namespace DepLogic
namespace M

variable {env : Env} {G : M → Prop} {n : Nat}

theorem step_pass (h : SoundB env G n) (b : Bool) {old : List M} {v : Bool} (hold : OkL env G b old v) :
    PassInv env G b (passB b (n + 1) old) v := by
  rw [passB_succ]
  have := pass_fold (decideWith_ok (h.op b) (h.simp b)) (OkL.flat n) hold (st := some []) ⟨trivial, agg_nil env b⟩
  rwa [bop_neutral_left] at this

theorem step_loop (h : SoundB env G n) (b : Bool) (old : List M) {new : List M} {v : Bool}
    (hnew : OkL env G b new v) : PassInv env G b (loopB b (n + 1) old new) v := by
  rw [loopB_succ]
  split
  · exact hnew
  · have hp := h.pass b hnew
    split <;> rename_i hmp <;> rw [hmp] at hp
    · exact hp
    · exact h.loop b new hp

theorem agg_of_isAbs (b : Bool) (l : List M) (hl : l.any (isAbs b) = true) : agg env b l = !b := by
  obtain ⟨x, hx, he⟩ := List.any_eq_true.1 hl
  rw [← agg_mem env b l x hx, sem_of_isAbs env b he, bop_absorb_right]

theorem step_of (h : SoundB env G n) (b : Bool) {ms : List M} {v : Bool} (hms : OkL env G b ms v) :
    Ok env G (ofB b (n + 1) ms) v := by
  rw [ofB_succ]
  have hl := h.loop b [] (hms.flat n)
  split <;> rename_i hml <;> rw [hml] at hl
  · exact hl ▸ ok_absorbing
  · have hl : OkL env G b _ v := hl
    split
    · rw [← hl.2, agg_of_isAbs b _ ‹_›]; exact ok_absorbing
    · split
      · rw [← hl.2, agg_nil]; exact ⟨(GAll_const G b).1, sem_neutral env b⟩
      · exact hl.one
      · exact hl.mk n

theorem step_nf (h : SoundB env G n) (b : Bool) {m : M} {v : Bool} (hm : Ok env G m v) :
    Ok env G (nfB b (n + 1) m) v := by
  rcases kind_cases b m with rfl | rfl | hs | ⟨b', ms, rfl⟩
  · rwa [nfB_leaf b _ _ (by cases b <;> rfl) (by cases b <;> rfl)]
  · rwa [nfB_leaf b _ _ (by cases b <;> rfl) (by cases b <;> rfl)]
  · rwa [nfB_leaf b _ m (single_not_junction true hs) (single_not_junction false hs)]
  obtain ⟨hG, rfl⟩ := ok_junction.1 hm
  by_cases e : b' = b
  · rw [e, nfB_same]
    exact h.of b ⟨map_G G _ _ fun x hx => (h.nf b ⟨hG.mem hx, rfl⟩).1,
      agg_map_same env b _ ms fun x hx => (h.nf b ⟨hG.mem hx, rfl⟩).2⟩
  · rw [Bool.eq_not_of_ne e]
    have hprod := product_G G ((ms.map (nfB b n)).map (childrenB b)) (List.forall_mem_map.2
      (List.forall_mem_map.2 fun x hx => childrenB_G G b _ (h.nf b ⟨hG.mem hx, rfl⟩).1))
    rw [nfB_other]
    refine h.of b ⟨map_G G (ofB (!b) n) _ fun c hc => (h.of (!b) ⟨hprod c hc, rfl⟩).1, ?_⟩
    calc agg env b ((product _).map (ofB (!b) n))
        = aggF b (aggF (!b) (sem env)) (product ((ms.map (nfB b n)).map (childrenB b))) :=
          (aggF_map ..).trans (aggF_congr _ _ _ _ fun c hc => (h.of (!b) ⟨hprod c hc, rfl⟩).2)
      _ = aggF (!b) (aggF b (sem env)) ((ms.map (nfB b n)).map (childrenB b)) := product_aggF b _ _
      _ = agg env (!b) ms := by
          rw [List.map_map, aggF_map]
          exact aggF_congr _ _ _ ms fun x hx => (childrenB_sem env b _).trans (h.nf b ⟨hG.mem hx, rfl⟩).2

theorem unwrapSingletons_ok (k : Nat) (m : M) : ∀ {v : Bool}, Ok env G m v → Ok env G (unwrapSingletons k m) v := by
  induction k, m using unwrapSingletons.induct with
  | case1 m => exact id
  | case2 k x ih => exact fun hm => ih (ok_junction (b := true).1 hm).one
  | case3 k x ih => exact fun hm => ih (ok_junction (b := false).1 hm).one
  | case4 k m h1 h2 => rw [unwrapSingletons.eq_4 m k h1 h2]; exact id

theorem step_unionOf (h : SoundB env G n) {ms : List M} {v : Bool} (hms : OkL env G false ms v) :
    Ok env G (unionOf (n + 1) ms) v := by
  -- dropping the `EmptyMarker`s changes nothing
  have hf : OkL env G false (ms.filter fun m => !m.isEmpty) v := ⟨filter_G G _ ms hms.1, by
    have : agg env false (ms.filter fun m => !!m.isEmpty) = false :=
      List.any_eq_false.2 fun x hx => by
        have he : x.isEmpty = true := by simpa using (List.mem_filter.1 hx).2
        rw [(isNeut_iff false x).1 he]; exact Bool.false_ne_true
    rw [← hms.2, agg_filter env false (fun m => !m.isEmpty) ms, this, bop_neutral_right]⟩
  have u := unwrapSingletons_ok (n + 1) _ (hf.mk n)
  exact unionOf_elim (P := fun r => Ok env G r v) n ms u (h.nf true u) (h.nf false (h.nf true u))

theorem step_op (hS : SingleSound env G) (h : SoundB env G n) (b : Bool) {x y : M} {u v : Bool}
    (hx : Ok env G x u) (hy : Ok env G y v) : Ok env G (opB b (n + 1) x y) (bop b u v) := by
  rcases kind_cases b x with rfl | rfl | sx | cx
  · rw [opB_neutral, ← hx.2, sem_neutral, bop_neutral_left]; exact hy
  · rw [opB_absorbing, ← hx.2, sem_absorbing, bop_absorb_left]; exact ok_absorbing
  case inr.inr.inr => rw [opB_compound b n y cx]; exact h.inter b (OkL.pair hx hy)
  rcases kind_cases b y with rfl | rfl | sy | cy
  · rw [opB_single_neutral b n sx, ← hy.2, sem_neutral, bop_neutral_right]; exact hx
  · rw [opB_single_absorbing b n sx, ← hy.2, sem_absorbing, bop_absorb_right]; exact ok_absorbing
  case inr.inr.inr => rw [opB_single_compound b n sx cy, bop_comm]; exact h.inter b (OkL.pair hy hx)
  rw [opB_singles b n sx sy]
  have := hS.ok b x y sx sy ((GAll_single G x sx).1 hx.1) ((GAll_single G y sy).1 hy.1)
  rw [hx.2, hy.2] at this
  generalize singleB b x y = r at this ⊢
  cases r with
  | done m => exact this
  | pair p q =>
    rcases this with ⟨rfl, rfl⟩ | ⟨rfl, rfl⟩
    · exact (OkL.pair hx hy).mk n
    · rw [bop_comm]; exact (OkL.pair hy hx).mk n

theorem shared_memB (ours theirs : List M) :
    ∀ x ∈ theirs.filter (memB · ours), memB x (ours.filter (memB · theirs)) = true := by
  intro x hx
  obtain ⟨hx1, hx2⟩ := List.mem_filter.1 hx
  obtain ⟨y, hy, hb⟩ := List.any_eq_true.1 hx2
  exact List.any_eq_true.2 ⟨y, List.mem_filter.2 ⟨hy, List.any_eq_true.2 ⟨x, hx1, by rw [beq_symm]; exact hb⟩⟩, hb⟩

theorem shared_agg (b : Bool) (ours theirs : List M) :
    agg env b (theirs.filter (memB · ours)) = agg env b (ours.filter (memB · theirs)) := by
  rw [← agg_absorb env b _ _ (shared_memB theirs ours), bop_comm, agg_absorb env b _ _ (shared_memB ours theirs)]

theorem simpPick_ok (h : SoundB env G n) (b : Bool) {shared : List M} {u r : M} {w t : Bool}
    (hsh : OkL env G (!b) shared w) (hu : Ok env G u t) (hr : simpPick b n shared u = some r) :
    Ok env G r (bop (!b) w t) := by
  revert hr
  fun_cases simpPick b n shared u <;> intro hr <;> cases hr
  case case1 h2 =>
    rw [← hu.2, sem_of_isAbs env b h2, bop_neutral_right]
    exact h.of (!b) hsh
  case case2 =>
    rw [bop_comm]
    exact h.op (!b) hu (hsh.mk n)

theorem simpChildren_ok (h : SoundB env G n) (b : Bool) {ours theirs : List M} {r : M} {u v : Bool}
    (ho : OkL env G (!b) ours u) (ht : OkL env G (!b) theirs v)
    (hr : simpChildren b n (junction (!b) ours) (junction (!b) theirs) ours theirs = some r) :
    Ok env G r (bop b u v) := by
  obtain ⟨ho, rfl⟩ := ho
  obtain ⟨ht, rfl⟩ := ht
  revert hr
  fun_cases simpChildren b n (junction (!b) ours) (junction (!b) theirs) ours theirs <;> intro hr
  case case1 h1 =>
    -- every child of `self` is a child of `other`
    cases hr
    refine ok_junction.2 ⟨ho, ?_⟩
    rw [← agg_absorb env (!b) theirs ours (List.all_eq_true.1 h1), bop_absorption]
  case case2 h2 =>
    cases hr
    refine ok_junction.2 ⟨ht, ?_⟩
    rw [← agg_absorb env (!b) ours theirs (List.all_eq_true.1 h2), bop_comm, bop_absorption]
  case case3 => cases hr
  case case4 =>
    -- the shared children factored out; `u` combines what only `s` has with what only `o` has
    have hu := h.op b (OkL.mk (b := !b) n ⟨filter_G G (fun m => !memB m theirs) ours ho, rfl⟩)
      (OkL.mk (b := !b) n ⟨filter_G G (fun m => !memB m ours) theirs ht, rfl⟩)
    rw [agg_filter env (!b) (memB · theirs) ours, agg_filter env (!b) (memB · ours) theirs,
      shared_agg (!b) ours theirs, bop_distrib]
    exact simpPick_ok h b ⟨filter_G G (memB · theirs) ours ho, rfl⟩ hu hr

theorem step_simp (h : SoundB env G n) (b : Bool) {s o r : M} {u v : Bool} (hs : Ok env G s u) (ho : Ok env G o v)
    (hr : simpB b (n + 1) s o = some r) : Ok env G r (bop b u v) := by
  rw [simpB_succ] at hr
  by_cases h1 : isJunction (!b) s = true
  case neg => rw [if_neg h1] at hr; cases hr
  rw [if_pos h1] at hr
  obtain ⟨ours, rfl⟩ := (isJunction_iff (!b) s).1 h1
  rw [childrenB_junction] at hr
  by_cases h2 : memB o ours = true
  · -- `other in self.markers`
    rw [if_pos h2] at hr
    cases hr
    obtain ⟨y, hy, hsy⟩ := memB_sem env o ours h2
    rw [← ho.2, ← hsy, ← ((ok_junction.1 hs).mem hy).2, bop_comm, bop_absorption, hsy, ho.2]
    exact ho
  rw [if_neg h2] at hr
  by_cases h3 : isJunction (!b) o = true
  case neg => rw [if_neg h3] at hr; cases hr
  rw [if_pos h3] at hr
  obtain ⟨theirs, rfl⟩ := (isJunction_iff (!b) o).1 h3
  rw [childrenB_junction] at hr
  exact simpChildren_ok h b (ok_junction.1 hs) (ok_junction.1 ho) hr

theorem soundB_succ (hS : SingleSound env G) (h : SoundB env G n) : SoundB env G (n + 1) where
  op := step_op hS h
  of := step_of h
  nf := step_nf h
  inter
    | true => fun hl => h.nf false (OkL.mk n hl)
    | false => step_unionOf h
  simp := step_simp h
  pass := step_pass h
  loop := step_loop h

theorem soundB_all (hS : SingleSound env G) : ∀ n, SoundB env G n
  | 0 => soundB_zero env G
  | n + 1 => soundB_succ hS (soundB_all hS n)

/-- **Engine soundness, every fuel**: given a sound single-marker layer, every engine function
    preserves the set of satisfying environments. -/
theorem sound_all (hS : SingleSound env G) : ∀ n, Sound env G n := fun n => (soundB_all hS n).sound

end M
end DepLogic
