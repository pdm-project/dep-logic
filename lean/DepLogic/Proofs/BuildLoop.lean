import DepLogic.Model.Marker
/-
  `_build_markers` (`M.build`), equation by equation: what it makes of an atom, and its loop over one list with the
  body of the loop named (`bstep`), so that proofs about the loop are inductions over a `foldl` of a named step.
-/
namespace DepLogic
namespace C03
open M

/-- the atom `_build_markers` makes from one `(lhs, op, rhs)` tuple -/
def atomOf (lhsIsVar : Bool) (lhs op rhs : String) : Option Atom :=
  (MOp.ofString? op).bind fun o =>
    if lhsIsVar then mkAtom lhs o rhs false else mkAtom rhs o.reflect lhs true

end C03

namespace M
open C03

theorem build_atom (fuel : Nat) (v : Bool) (l o r : String) :
    build (fuel + 1) (.atom v l o r) = (atomOf v l o r).map .expr :=
  -- either way round, `.expr` moves out of the `bind` over the parsed operator
  match v with
  | true => (Option.map_bind ..).symm
  | false => (Option.map_bind ..).symm

/-- `none`: an atom outside the model was met -/
def bstep (fuel : Nat) (st : Option (List M)) (it : PItem) : Option (List M) :=
  match st with
  | none => none
  | some groups =>
    match it, groups with
    | .or_, gs => some (.any :: gs)
    | .and_, gs => some gs
    | it, g :: gs => (build fuel it).map fun m => M.and fuel g m :: gs
    | _, [] => none

theorem build_group (fuel : Nat) (items : List PItem) : build (fuel + 1) (.group items) =
    (items.foldl (bstep fuel) (some [.any])).map fun gs => unionOfList fuel gs.reverse := rfl

section
variable (fuel : Nat) {it : PItem} (hop : it ≠ .and_ ∧ it ≠ .or_)
include hop

theorem bstep_operand (g : M) (gs : List M) :
    bstep fuel (some (g :: gs)) it = (build fuel it).map fun m => M.and fuel g m :: gs := by
  cases it <;> first | rfl | simp at hop

end

end M
end DepLogic
