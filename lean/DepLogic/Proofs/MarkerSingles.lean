import DepLogic.Proofs.MarkerEngineStep
import DepLogic.Properties.C19
import DepLogic.Properties.C05
import DepLogic.Proofs.SpecTheorems
import DepLogic.Proofs.TextInv
import DepLogic.Proofs.PyNorm
/-
  Two atoms are merged through their specifier views.  What makes this sound is a READING: something the
  environment supplies of which both views say what the atoms mean.  On a version variable it is the environment's
  version, and `ver_reading` says what makes it one: it is respected by `&` / `|` and `==` of the views and by
  `from_specifier`, which renders the result (whence `FromSpecOk` and `PyMergeOk`, the two facts taken from the
  marker <-> specifier bridge, C11).  On a string variable it is the variable's value (`Reads`), on which the table of
  `GenericSpecifier` is exact (C19).
-/
namespace DepLogic
namespace M

def setNames : List String := ["extras", "dependency_groups"]

def StrName (n : String) : Prop :=
  versionEvalNames.contains n = false ∧ versionLikeNames.contains n = false ∧ n ≠ "extra" ∧
  setNames.contains n = false

instance (n : String) : Decidable (StrName n) := by unfold StrName; exact inferInstance

/-- is the environment's value of `name` in the specifier? -/
def holds (env : Env) (name : String) : ASpec → Bool
  | .gen g => match env name with | some (.str t) => g.contains t | _ => false
  | .ver s =>
    match s with
    | .empty => false
    | .any => true
    | s =>
      match env name with
      | some (.str t) =>
        (match SpecParse.parseVer (trimS t) with | some v => decide (s.mem v) | none => false)
      | _ => false

/-- the atom's specifier is the one `_get_specifier` computes from its own fields -/
def _root_.DepLogic.Atom.WF (a : Atom) : Prop := getSpecifier a.name a.op a.value a.reversed = some a.spec

def _root_.DepLogic.Atom.Coherent (env : Env) (a : Atom) : Prop := sem env (.expr a) = holds env a.name a.spec

/-- canonical, cached clause texts right, every bound a plain final release (`C06.Nice`).  (With a
    post-release upper bound the `~=` rendering of `RangeSpecifier._simplified_form` drops the suffix
    — known finding D4a — and `from_specifier` would then build an atom that means something else.) -/
def _root_.DepLogic.ASpec.Canon : ASpec → Prop
  | .ver s => C06.Nice s
  | .gen _ => True

def envVer (env : Env) (name : String) : Option Ver :=
  match env name with
  | some (.str t) => SpecParse.parseVer (trimS t)
  | _ => none

/-- a specifier on `python_version` that does not tell `X.Y` from `X.Y.Z`: read on the environment's
    python_full_version it admits what it admits on its python_version.  (True of views with bounds
    `X.Y`, `X.Y.0`, …; false of `>= 3.8.1`.) -/
def PvSem (env : Env) : ASpec → Prop
  | .ver sp => ∀ pv f, envVer env "python_version" = some pv → envVer env "python_full_version" = some f →
      (sp.mem pv ↔ sp.mem f)
  | .gen _ => True

/-- a plain final release with at most two significant components (`3.8`, `3.8.0`, `4`) -/
def Pv2 (v : Ver) : Prop := Spec.FinalV v ∧ ∀ i, 2 ≤ i → VOrd.nth0 v.release i = 0

/-- no theorem asks for it -/
def PvBounds : ASpec → Prop
  | .ver sp => Spec.BoundsIn Pv2 sp
  | .gen _ => True

def SameKind (n : String) (s : ASpec) : Prop :=
  match s with
  | .ver _ => versionLikeNames.contains n = true
  | .gen _ => n ≠ "extra" ∧ setNames.contains n = false

/-- a `python_version` atom read as a constraint on `python_full_version` — what
    `_normalize_python_version_specifier` computes — means what the atom means.  (False of operands
    outside the well-defined class, e.g. `python_version >= "3.8.1"`.) -/
def NormGood (env : Env) (a : Atom) : Prop :=
  a.name = "python_version" → ∀ ns, normalizePythonVersion a = some ns →
    holds env "python_full_version" ns = sem env (.expr a) ∧ ns.Canon ∧ SameKind "python_full_version" ns

/-- atoms of the well-defined classes, in an environment where they behave -/
def GoodAtom (env : Env) (a : Atom) : Prop :=
  a.WF ∧
  (if a.name = "extra" then a.op = .eq ∨ a.op = .ne
   else if setNames.contains a.name then a.reversed = true ∧ (a.op = .in_ ∨ a.op = .notIn)
   else if versionLikeNames.contains a.name then
     -- an atom whose specifier view is not exact (`"3.8" ~= python_version`, ...) is opaque: never merged
     a.exactView = false ∨
     (a.Coherent env ∧ a.spec.Canon ∧ NormGood env a)
   else StrName a.name ∨ a.exactView = false)

def Good (env : Env) : M → Prop
  | .expr a => GoodAtom env a
  | .eqU n _ => StrName n
  | .neM n _ => StrName n
  | _ => True

theorem strName_not_versionLike {n : String} (h : StrName n) : versionLikeNames.contains n = false := h.2.1

theorem exactView_of_strName (a : Atom) (h : StrName a.name) : a.exactView = true := by
  unfold Atom.exactView; rw [h.1, h.2.1]; simp

theorem getSpecifier_gen (name : String) (op : MOp) (value : String) (rev : Bool)
    (hn : versionLikeNames.contains name = false) :
    getSpecifier name op value rev = (op.toGOp? rev).map fun g => .gen ⟨g, value⟩ := by
  simp only [getSpecifier, hn, Bool.not_false, if_true]

theorem getSpecifier_cmp (name : String) (op : MOp) (value : String) (rev : Bool)
    (hn : versionLikeNames.contains name = true) (hop : op ≠ .in_ ∧ op ≠ .notIn) :
    getSpecifier name op value rev = (parseSpecOpt (op.str ++ value)).map .ver := by
  have hne : (op == MOp.in_ || op == MOp.notIn) = false := by
    rw [Bool.or_eq_false_iff]; exact ⟨beq_eq_false_iff_ne.2 hop.1, beq_eq_false_iff_ne.2 hop.2⟩
  simp only [getSpecifier, hn, Bool.not_true, Bool.false_eq_true, if_false, hne]

theorem parseSpecOpt_some (text : String) (s : Spec Ver) :
    parseSpecOpt text = some s ↔ ∃ alts, SpecParse.parseAltsText text = some alts ∧ parseAlts alts = some s := by
  unfold parseSpecOpt SpecParse.parseSpecString
  cases SpecParse.parseAltsText text with
  | none => simp
  | some alts => cases h : parseAlts alts <;> simp [h]

theorem wf_gen_spec (a : Atom) (hw : a.WF) (hn : versionLikeNames.contains a.name = false) :
    ∃ g, a.op.toGOp? a.reversed = some g ∧ a.spec = .gen ⟨g, a.value⟩ := by
  rw [Atom.WF, getSpecifier_gen _ _ _ _ hn, Option.map_eq_some_iff] at hw
  exact hw.imp fun g h => ⟨h.1, h.2.symm⟩

theorem wf_ver_spec (a : Atom) (hw : a.WF) (hn : versionLikeNames.contains a.name = true) :
    ∃ s, a.spec = .ver s := by
  unfold Atom.WF getSpecifier at hw
  simp only [hn, Bool.not_true, Bool.false_eq_true, if_false] at hw
  split at hw <;> simp only [Option.map_eq_some_iff] at hw <;> (obtain ⟨s, _, hs⟩ := hw; exact ⟨s, hs.symm⟩)

/-- the marker operator a specifier operator came from, whichever side the literal was on (`gopToMOp`,
    `from_specifier`'s, has no answer for `contains`) -/
def MOp.ofGOp : GOp → MOp
  | .eq => .eq | .ne => .ne | .in_ | .contains => .in_ | .notIn | .notContains => .notIn
  | .gt => .gt | .ge => .ge | .lt => .lt | .le => .le

theorem toGOp_back {r : Bool} {o : MOp} {g : GOp} (h : o.toGOp? r = some g) : MOp.ofGOp g = o := by
  cases r <;> cases o <;> cases h <;> rfl

theorem str_le_iff (a b : String) : decide (¬ a < b) = decide (b ≤ a) := by
  rw [C19.dec_le, decide_not]

/-- `_operators` of `_evaluate` and `GenericSpecifier.__contains__` are one table, also for a literal on the left
    (operator mirrored, operands exchanged) -/
theorem strOp_contains (rev : Bool) (op : MOp) (g : GOp) (v t : String) (hg : op.toGOp? rev = some g) :
    strOp (if rev then op.reflect else op) (if rev then v else t) (if rev then t else v) =
      some (GSpec.containsWith strIn ⟨g, v⟩ t) := by
  cases rev
  · cases op <;> cases hg <;> rfl
  · cases op <;> cases hg
    case true.eq.refl => exact congrArg some BEq.comm
    case true.ne.refl => exact congrArg (fun x => some (!x)) BEq.comm
    all_goals rfl

/-- coherence of plain string atoms is a theorem: `GoodAtom` does not ask for it -/
theorem str_coherent (env : Env) (a : Atom) (hw : a.WF) (hn : StrName a.name) : a.Coherent env := by
  obtain ⟨g, hg, hs⟩ := wf_gen_spec a hw hn.2.1
  unfold Atom.Coherent
  rw [hs]
  simp only [sem, holds, Atom.eval]
  have h1 : (a.name == "extra") = false := by simpa using hn.2.2.1
  have h2 : (a.name == "extras" || a.name == "dependency_groups") = false := by
    have := hn.2.2.2; simp [setNames] at this; simp [this]
  simp only [h1, Bool.false_eq_true, if_false, h2, hn.1]
  cases henv : env a.name with
  | none => rfl
  | some ev =>
    cases ev with
    | set xs => rfl
    | str t =>
      have := strOp_contains a.reversed a.op g a.value t hg
      cases hr : a.reversed <;> rw [hr] at this <;> simp only [Bool.false_eq_true, if_false, if_true] at this ⊢ <;>
        rw [this] <;> rfl

theorem holds_ver_mem (env : Env) (name : String) (s : Spec Ver) :
    holds env name (.ver s) =
      (match s with
       | .empty => false
       | .any => true
       | s => match env name with
         | some (.str t) => (match SpecParse.parseVer (trimS t) with | some v => decide (s.mem v) | none => false)
         | _ => false) := by
  cases s <;> rfl

theorem holds_ver (env : Env) (name : String) (s : Spec Ver) :
    holds env name (.ver s) =
      (match envVer env name with
       | some v => decide (s.mem v)
       | none => decide (s = .any)) := by
  unfold envVer
  cases s <;> simp only [holds, Spec.mem] <;> (cases env name with
    | none => simp
    | some ev => cases ev with
      | set _ => simp
      | str t => cases hp : SpecParse.parseVer (trimS t) <;> simp [hp] <;> rfl)

/-- the environment binds every variable the way PEP 508 environments do -/
structure EnvTotal (env : Env) : Prop where
  str : ∀ n, n ≠ "extra" → setNames.contains n = false → ∃ t, env n = some (.str t)
  ver : ∀ n, versionLikeNames.contains n = true → (envVer env n).isSome = true
  /-- interpreter and kernel versions are final releases (`3.12.1`, not `3.13.0rc1`) -/
  verFinal : ∀ n v, envVer env n = some v → v.isFinal = true
  /-- `python_version` is `major.minor` of `python_full_version` -/
  py : ∀ f, envVer env "python_full_version" = some f →
    ∃ X Y zs, f = fin (X :: Y :: zs) ∧ envVer env "python_version" = some (fin [X, Y])
  extra : (env "extra").isSome = true
  sets : ∀ n, setNames.contains n = true → ∃ xs, env n = some (.set xs)

theorem ofGRes_beq (r : GRes) (g : GSpec) : (ASpec.ofGRes r).beq (.gen g) = true ↔ r = .spec g := by
  cases r <;> simp [ASpec.ofGRes, ASpec.beq]

theorem ofGRes_beq_gen (r : GRes) (g : GSpec) (h : (ASpec.ofGRes r).beq (.gen g) = false) : r ≠ .spec g :=
  fun e => Bool.false_ne_true (h.symm.trans ((ofGRes_beq r g).2 e))

/-- `spec1 & spec2` / `spec1 | spec2`, as `_merge_single_markers` asks for it -/
def aspecB (b : Bool) (s1 s2 : ASpec) : Option ASpec := if b then aspecAnd s1 s2 else aspecOr s1 s2

theorem aspecB_gen (b : Bool) (x y : GSpec) (r : ASpec) (h : aspecB b (.gen x) (.gen y) = some r) :
    ∃ gr, r = ASpec.ofGRes gr ∧ C19.Row strIn (bop b) x y gr := by
  cases b
  · obtain ⟨gr, hgr, rfl⟩ := Option.map_eq_some_iff.1 h
    exact ⟨gr, rfl, C19.or_row hgr⟩
  · obtain ⟨gr, hgr, rfl⟩ := Option.map_eq_some_iff.1 h
    exact ⟨gr, rfl, C19.and_row hgr⟩

theorem aspecB_self (b : Bool) (x : GSpec) : aspecB b (.gen x) (.gen x) = some (.gen x) := by
  cases b <;> simp [aspecB, aspecAnd, aspecOr, GSpec.and, GSpec.or, GSpec.andWith, GSpec.orWith, ASpec.ofGRes]

/-- C11 (second half): `from_specifier` turns a canonical version specifier without post-release
    bounds into a marker that means it -/
def FromSpecOk (env : Env) : Prop :=
  ∀ name s m, versionLikeNames.contains name = true → ASpec.Canon (.ver s) →
    fromSpecifier name (.ver s) = some m → GAll (Good env) m ∧ sem env m = holds env name (.ver s)

def PyMergeOk (env : Env) : Prop :=
  ∀ a b isAnd m, GoodAtom env a → GoodAtom env b → a.exactView = true → b.exactView = true →
    ((a.name == "python_version" && b.name == "python_full_version") ||
     (a.name == "python_full_version" && b.name == "python_version")) = true →
    mergePythonVersion a b isAnd = some m →
    GAll (Good env) m ∧ sem env m = bop isAnd (sem env (.expr a)) (sem env (.expr b))

theorem mkAtom_name (name : String) (op : MOp) (v : String) (r : Bool) (a : Atom) (h : mkAtom name op v r = some a) :
    a.name = name := by
  obtain ⟨s, _, rfl⟩ := Option.map_eq_some_iff.1 h
  rfl

theorem mkAtom_str (n : String) (hnv : versionLikeNames.contains n = false) (op : MOp) (value : String)
    (rev : Bool) (g : GOp) (hg : op.toGOp? rev = some g) :
    mkAtom n op value rev = some ⟨n, op, value, rev, .gen ⟨g, value⟩⟩ := by
  simp [mkAtom, getSpecifier_gen _ _ _ _ hnv, hg]

def gopToMOp : GOp → Option MOp
  | .eq => some .eq | .ne => some .ne | .in_ => some .in_ | .notIn => some .notIn
  | .gt => some .gt | .ge => some .ge | .lt => some .lt | .le => some .le
  | _ => none

theorem GoodAtom.of_strName {env : Env} {a : Atom} (hw : a.WF) (hn : StrName a.name) : GoodAtom env a := by
  refine ⟨hw, ?_⟩
  rw [if_neg hn.2.2.1, if_neg (by rw [hn.2.2.2]; exact Bool.false_ne_true),
    if_neg (by rw [hn.2.1]; exact Bool.false_ne_true)]
  exact Or.inl hn

theorem gen_fromSpecifier (env : Env) (n : String) (hn : StrName n) (g : GSpec) (op : MOp)
    (hop : gopToMOp g.op = some op) :
    fromSpecifier n (.gen g) = some (.expr ⟨n, op, g.value, false, .gen g⟩) ∧
    Good env (.expr ⟨n, op, g.value, false, .gen g⟩) ∧
    sem env (.expr ⟨n, op, g.value, false, .gen g⟩) = holds env n (.gen g) := by
  rcases g with ⟨gop, value⟩
  have hmk := mkAtom_str n hn.2.1 op value false gop (by cases gop <;> cases hop <;> rfl)
  have hwf : Atom.WF ⟨n, op, value, false, .gen ⟨gop, value⟩⟩ := by
    obtain ⟨s, hs, e⟩ := Option.map_eq_some_iff.1 hmk
    cases e
    exact hs
  refine ⟨?_, .of_strName hwf hn, str_coherent env _ hwf hn⟩
  show (gopToMOp gop).bind (fun op => (mkAtom n op value false).map M.expr) = _
  rw [hop]
  exact congrArg (Option.map M.expr) hmk

theorem versionLike_ordinary (n : String) (hv : versionLikeNames.contains n = true) :
    n ≠ "extra" ∧ setNames.contains n = false := by
  simp only [versionLikeNames, List.contains_cons, List.contains_nil, Bool.or_false, Bool.or_eq_true, beq_iff_eq] at hv
  rcases hv with rfl | rfl | rfl <;> decide

theorem GoodAtom.of_versionLike {env : Env} {a : Atom} (hw : a.WF) (hv : versionLikeNames.contains a.name = true)
    (h : a.exactView = false ∨ a.Coherent env ∧ a.spec.Canon ∧ NormGood env a) : GoodAtom env a := by
  obtain ⟨h1, h2⟩ := versionLike_ordinary _ hv
  refine ⟨hw, ?_⟩
  rw [if_neg h1, if_neg (by rw [h2]; exact Bool.false_ne_true), if_pos hv]
  exact h

theorem good_versionLike (env : Env) (a : Atom) (ha : GoodAtom env a) (hv : versionLikeNames.contains a.name = true)
    (hx : a.exactView = true) :
    ∃ s, a.spec = .ver s ∧ C06.Nice s ∧ sem env (.expr a) = holds env a.name (.ver s) ∧ NormGood env a := by
  obtain ⟨hw, hc⟩ := ha
  obtain ⟨h1, h2⟩ := versionLike_ordinary _ hv
  simp only [h1, if_false, h2, Bool.false_eq_true, hv, if_true] at hc
  replace hc := hc.resolve_left (by simp [hx])
  obtain ⟨s, hs⟩ := wf_ver_spec a hw hv
  unfold Atom.Coherent at hc
  rw [hs] at hc
  exact ⟨s, hs, hc.2.1, hc.1, hc.2.2⟩

/-- THE READING OF A VERSION VARIABLE is the environment's version.  (`|` of version specifiers is exact only on
    canonical operands, hence `Nice`.) -/
theorem ver_reading (env : Env) (he : EnvTotal env) (hF : FromSpecOk env) (n : String)
    (hv : versionLikeNames.contains n = true) (b : Bool) (s1 s2 : Spec Ver) (c1 : C06.Nice s1) (c2 : C06.Nice s2) :
    ∃ r, aspecB b (.ver s1) (.ver s2) = some r ∧
      holds env n r = bop b (holds env n (.ver s1)) (holds env n (.ver s2)) ∧
      (∀ s, r.beq (.ver s) = true → holds env n r = holds env n (.ver s)) ∧
      ∀ m, fromSpecifier n r = some m → GAll (Good env) m ∧ sem env m = holds env n r := by
  obtain ⟨v, hev⟩ := Option.isSome_iff_exists.1 (he.ver n hv)
  obtain ⟨s, hr, hc, hm⟩ : ∃ s, aspecB b (.ver s1) (.ver s2) = some (.ver s) ∧ C06.Nice s ∧
      decide (s.mem v) = bop b (decide (s1.mem v)) (decide (s2.mem v)) := by
    cases b
    · obtain ⟨s, hs, _, hm⟩ := Spec.or_spec s1 s2 c1.canon c2.canon
      exact ⟨s, congrArg (Option.map ASpec.ver) hs, C06.nice_or s1 s2 s c1 c2 hs, by simp [bop, hm]⟩
    · exact ⟨_, rfl, C06.nice_and _ _ c1 c2, by simp [bop, Spec.and_mem]⟩
  refine ⟨_, hr, ?_, fun s' hb => ?_, fun m => hF n s m hv hc⟩
  · simp only [holds_ver, hev, hm]
  · simp only [holds_ver, hev]
    exact decide_eq_decide.2 (C05.eq_sound s s' hb v)

/-- THE READING OF A STRING VARIABLE is a string `t` of which the atom's `GenericSpecifier` view says what the atom means -/
def Reads (env : Env) (t : String) (a : Atom) : Prop :=
  ∃ g, a.op.toGOp? a.reversed = some g ∧ a.spec = .gen ⟨g, a.value⟩ ∧
    sem env (.expr a) = (GSpec.mk g a.value).contains t

/-- two atoms with a common reading: the table is exact (C19) and answers an operand or a constant, so whatever is
    answered means the combination on `t` -/
theorem merge_gen_ok (env : Env) (a b : Atom) (isAnd : Bool) (t : String) (ra : Reads env t a) (rb : Reads env t b)
    (ha : GoodAtom env a) (hb : GoodAtom env b) (r : ASpec)
    (hr : aspecB isAnd a.spec b.spec = some r) (m : M)
    (hm : (if r.beq a.spec then some (.expr a) else if r.beq b.spec then some (.expr b)
           else fromSpecifier a.name r) = some m) :
    GAll (Good env) m ∧ sem env m = bop isAnd (sem env (.expr a)) (sem env (.expr b)) := by
  obtain ⟨ga, _, sa, ta⟩ := ra
  obtain ⟨gb, _, sb, tb⟩ := rb
  rw [sa, sb] at hr hm
  obtain ⟨gr, rfl, T⟩ := aspecB_gen isAnd _ _ r hr
  rw [ta, tb, ← show gr.contains t = bop isAnd (GSpec.contains _ t) (GSpec.contains _ t) from T.exact t]
  refine ite_some hm (fun e => ?_) fun e1 hm => ite_some hm (fun e => ?_) fun e2 hm => ?_
  · cases (ofGRes_beq gr _).1 e; exact ⟨ha, ta⟩
  · cases (ofGRes_beq gr _).1 e; exact ⟨hb, tb⟩
  · rcases T.answer with rfl | rfl | rfl | rfl
    · cases (hm : some M.empty = some m); exact ⟨trivial, rfl⟩
    · cases (hm : some M.any = some m); exact ⟨trivial, rfl⟩
    · exact absurd ((ofGRes_beq _ _).2 rfl) e1
    · exact absurd ((ofGRes_beq _ _).2 rfl) e2

theorem sem_str_atom {env : Env} {a : Atom} (hw : a.WF) (hn : StrName a.name) {t : String}
    (ht : env a.name = some (.str t)) : Reads env t a := by
  obtain ⟨g, hg, hs⟩ := wf_gen_spec a hw hn.2.1
  have hc := str_coherent env a hw hn
  unfold Atom.Coherent at hc
  rw [hs] at hc
  exact ⟨g, hg, hs, by simpa only [holds, ht] using hc⟩

/-- `extra == v` / `extra != v` mean "`v` is among the extras" and its negation, so a string that is `v`, or is not,
    is a reading of all atoms on that ONE value: that is why `_merge_single_markers` merges only those. -/
theorem extra_reading (env : Env) (he : EnvTotal env) (v : String) :
    ∃ t, ∀ a : Atom, GoodAtom env a → a.name = "extra" → a.value = v → Reads env t a := by
  obtain ⟨ev, hev⟩ := Option.isSome_iff_exists.1 he.extra
  obtain ⟨t, ht⟩ : ∃ t : String, (t == v) = (ev.toList.map normalizeName).contains (normalizeName v) := by
    cases (ev.toList.map normalizeName).contains (normalizeName v)
    · exact ⟨v ++ "x", beq_eq_false_iff_ne.2 fun h => by simpa using congrArg String.length h⟩
    · exact ⟨v, beq_self_eq_true v⟩
  refine ⟨t, fun a ha hn hv => ?_⟩
  obtain ⟨g, hg, hs⟩ := wf_gen_spec a ha.1 (by rw [hn]; decide)
  have ho : a.op = .eq ∨ a.op = .ne := by simpa [hn] using ha.2
  refine ⟨g, hg, hs, ?_⟩
  rcases ho with ho | ho <;> rw [ho] at hg <;> cases hg <;>
    simp only [sem, Atom.eval, hn, hev, ho, hv, beq_self_eq_true, if_true, Option.getD_some] <;> rw [← ht] <;> rfl

theorem strName_env (env : Env) (he : EnvTotal env) (n : String) (hn : StrName n) : ∃ t, env n = some (.str t) :=
  he.str n hn.2.2.1 hn.2.2.2

theorem sem_atom {env : Env} {c : Atom} (gc : GoodAtom env c) (hn : StrName c.name)
    {t : String} (ht : env c.name = some (.str t)) : sem env (.expr c) = c.spec.containsStr t := by
  obtain ⟨g, _, hs, hsem⟩ := sem_str_atom gc.1 hn ht
  rw [hsem, hs]; rfl

theorem dedupS_pair (v1 v2 t : String) : (dedupS [v1, v2]).contains t = (t == v1 || t == v2) := by
  rw [Bool.eq_iff_iff]
  by_cases h : v2 = v1
  · subst h; simp [dedupS]
  · simp [dedupS, h, List.filter]

theorem contains_filter (l : List String) (p : String → Bool) (t : String) :
    (l.filter p).contains t = (l.contains t && p t) := by
  rw [Bool.eq_iff_iff]
  simp [List.mem_filter]

theorem pol_and (b x y : Bool) : pol b (x && y) = bop b (pol b x) (pol b y) := by cases b <;> cases x <;> cases y <;> rfl
theorem pol_not (b x : Bool) : pol b (!x) = pol (!b) x := by cases b <;> cases x <;> rfl
theorem pol_pol (b x : Bool) : pol b (pol b x) = x := by cases b <;> cases x <;> rfl

/-- `c` is absorbed by a strong group that excludes it: `(t ≠ v₁ ∧ …) ∧ c = c` when `c` holds of no `vᵢ`, and
    mirrored -/
theorem bop_strong_keep (b V C : Bool) (h : V = true → pol b C = false) : bop b (pol b (!V)) C = C := by
  cases b <;> cases V <;> cases C <;> first | rfl | exact nomatch h rfl

/-- and the combination is the absorbing constant when `c` can only hold of one of the `vᵢ` -/
theorem bop_strong_clash (b V C : Bool) (h : pol b C = true → V = true) : bop b (pol b (!V)) C = !b := by
  cases b <;> cases V <;> cases C <;> first | rfl | exact absurd (h rfl) Bool.false_ne_true

theorem not_or_and_not (x y : Bool) : (!(x || (y && !x))) = (!x && !y) := by cases x <;> cases y <;> rfl
/-- the test `InequalityMultiMarker.__and__` / `EqualityMarkerUnion.__or__` makes before answering the atom -/
theorem strong_expr_test (b : Bool) (vs : List String) (p : String → Bool) (t : String)
    (hq : (if b then !(vs.any p) else vs.all p) = true) (hV : vs.contains t = true) : pol b (p t) = false := by
  have ht : t ∈ vs := by simpa using hV
  cases b
  · rw [show p t = true from List.all_eq_true.1 hq t ht]; rfl
  · exact Bool.eq_false_iff.2 fun h => by
      rw [if_pos rfl, List.any_eq_true.2 ⟨t, ht, h⟩] at hq; cases hq

theorem sem_strong {env : Env} (b : Bool) {n t : String} (ht : env n = some (.str t)) (vs : List String) :
    sem env (strong b n vs) = pol b (!vs.contains t) := by
  cases b <;> simp [strong, sem, ht, pol]

theorem good_strong {env : Env} (b : Bool) {n : String} (l : List String) (hn : StrName n) : GAll (Good env) (strong b n l) := by
  cases b <;> exact hn

theorem sem_weak {env : Env} (b : Bool) {n t : String} (ht : env n = some (.str t)) (vs : List String) :
    sem env (weak b n vs) = pol b (vs.contains t) := by
  cases b <;> simp only [weak, sem, ht] <;> rfl

theorem replB_ok {env : Env} (b : Bool) {n : String} (hn : StrName n) {t : String} (ht : env n = some (.str t)) (l : List String) :
    GAll (Good env) (replB b n l) ∧ sem env (replB b n l) = pol b (l.contains t) := by
  rw [replB_eq]
  match l with
  | [] => exact ⟨(GAll_const _ b).2, by cases b <;> rfl⟩
  | [v] =>
    have h := fun g op h => (gen_fromSpecifier env n hn ⟨g, v⟩ op h).2
    simp only [holds, ht] at h
    rw [List.contains_cons, List.contains_nil, Bool.or_false]
    cases b
    · exact h .ne .ne rfl
    · exact h .eq .eq rfl
  | _ :: _ :: _ => exact ⟨by cases b <;> exact hn, sem_weak b ht _⟩

theorem sem_weakOp {env : Env} {c : Atom} (gc : GoodAtom env c) (hn : StrName c.name) {t : String}
    (ht : env c.name = some (.str t)) (b : Bool) (ho : c.op = weakOp b) : sem env (.expr c) = pol b (t == c.value) := by
  obtain ⟨g, hg, _, hsem⟩ := sem_str_atom gc.1 hn ht
  rw [ho] at hg
  cases b <;> cases hg <;> exact hsem

theorem mergePythonVersion_inv (a b : Atom) (isAnd : Bool) (m : M)
    (hp : ((a.name == "python_version" && b.name == "python_full_version") ||
           (a.name == "python_full_version" && b.name == "python_version")) = true)
    (h : mergePythonVersion a b isAnd = some m) :
    ∃ vm fm ns r, (vm = a ∧ fm = b ∨ vm = b ∧ fm = a) ∧ vm.name = "python_version" ∧ fm.name = "python_full_version" ∧
      normalizePythonVersion vm = some ns ∧ aspecB isAnd ns fm.spec = some r ∧
      (if r.beq ns then some (.expr vm) else fromSpecifier "python_full_version" r) = some m := by
  unfold mergePythonVersion at h
  generalize hvf : (if a.name == "python_version" then (a, b) else (b, a)) = p at h
  obtain ⟨vm, fm⟩ := p
  refine ⟨vm, fm, ?_⟩
  have hvf' : (vm = a ∧ fm = b ∨ vm = b ∧ fm = a) ∧ vm.name = "python_version" ∧ fm.name = "python_full_version" := by
    simp only [Bool.or_eq_true, Bool.and_eq_true, beq_iff_eq] at hp
    rcases hp with ⟨hna, hnb⟩ | ⟨hna, hnb⟩
    · rw [if_pos (by simp [hna])] at hvf; cases hvf; exact ⟨Or.inl ⟨rfl, rfl⟩, hna, hnb⟩
    · rw [if_neg (by simp [hna])] at hvf; cases hvf; exact ⟨Or.inr ⟨rfl, rfl⟩, hnb, hna⟩
  cases hns : normalizePythonVersion vm with
  | none => simp [hns] at h
  | some ns =>
    cases hr : (if isAnd then aspecAnd ns fm.spec else aspecOr ns fm.spec) with
    | none => simp [hns, hr] at h
    | some r =>
      simp only [hns, hr] at h
      exact ⟨ns, r, hvf'.1, hvf'.2.1, hvf'.2.2, rfl, hr, h⟩

theorem mergeSingle_inv (a b : Atom) (isAnd : Bool) (m : M) (h : mergeSingle a b isAnd = some m) :
    (a.beq b = true ∧ m = .expr a) ∨
    (¬ a.beq b = true ∧ a.exactView = true ∧ b.exactView = true ∧
      (((a.name == "python_version" && b.name == "python_full_version") ||
         (a.name == "python_full_version" && b.name == "python_version")) = true ∧
          mergePythonVersion a b isAnd = some m ∨
        a.name = b.name ∧ ¬ (a.name == "extra" && a.value != b.value) = true ∧
          ((∃ r, aspecB isAnd a.spec b.spec = some r ∧
              (if r.beq a.spec then some (.expr a) else if r.beq b.spec then some (.expr b)
                else fromSpecifier a.name r) = some m) ∨
            aspecB isAnd a.spec b.spec = none ∧ a.op = weakOp (!isAnd) ∧ b.op = weakOp (!isAnd) ∧
              m = strong isAnd a.name (dedupS [a.value, b.value])))) := by
  unfold mergeSingle at h
  refine ite_some h (fun hs => .inl ⟨hs, rfl⟩) fun hs h => .inr ?_
  obtain ⟨hx, h⟩ := Option.ite_none_right_eq_some.1 h
  refine ⟨hs, (Bool.and_eq_true _ _ ▸ hx).1, (Bool.and_eq_true _ _ ▸ hx).2, ?_⟩
  unfold mergeSingleCore at h
  by_cases hp : ((a.name == "python_version" && b.name == "python_full_version") ||
      (a.name == "python_full_version" && b.name == "python_version")) = true
  · rw [if_pos hp] at h
    exact Or.inl ⟨hp, h⟩
  rw [if_neg hp] at h
  obtain ⟨hn, h⟩ := Option.ite_none_left_eq_some.1 h
  obtain ⟨he, h⟩ := Option.ite_none_left_eq_some.1 h
  refine Or.inr ⟨by simpa using hn, he, ?_⟩
  cases hr : aspecB isAnd a.spec b.spec with
  | some r => simp only [show (if isAnd then _ else _) = _ from hr] at h; exact Or.inl ⟨r, rfl, h⟩
  | none =>
    simp only [show (if isAnd then _ else _) = _ from hr] at h
    refine Or.inr ⟨rfl, ?_⟩
    refine ite_some h (fun c => ?_) fun _ h => ite_some h (fun c => ?_) fun _ h => nomatch h
    all_goals
      simp only [Bool.and_eq_true, beq_iff_eq, Bool.not_eq_true'] at c
      obtain ⟨⟨oa, ob⟩, rfl⟩ := c
      exact ⟨oa, ob, rfl⟩

theorem mergeSingle_ok (env : Env) (he : EnvTotal env) (hF : FromSpecOk env) (hP : PyMergeOk env)
    (a b : Atom) (isAnd : Bool) (ha : GoodAtom env a) (hb : GoodAtom env b) (m : M)
    (h : mergeSingle a b isAnd = some m) :
    GAll (Good env) m ∧ sem env m = bop isAnd (sem env (.expr a)) (sem env (.expr b)) := by
  rcases mergeSingle_inv a b isAnd m h with ⟨hsame, rfl⟩ | ⟨hnb, hxa, hxb, ⟨hpair, h⟩ | ⟨hn, hex, h⟩⟩
  · refine ⟨ha, ?_⟩
    have : sem env (.expr b) = sem env (.expr a) := by
      simp only [sem, Atom.beq_eval env a b hsame]
    rw [this, bop_idem]
  · exact hP a b isAnd m ha hb hxa hxb hpair h
  · by_cases hv : versionLikeNames.contains a.name = true
    · -- version variables: the reading is the environment's version
      obtain ⟨sa, hsa, na, ca, _⟩ := good_versionLike env a ha hv hxa
      obtain ⟨sb, hsb, nb, cb, _⟩ := good_versionLike env b hb (hn ▸ hv) hxb
      obtain ⟨r, hr, hom, hbeq, hfrom⟩ := ver_reading env he hF a.name hv isAnd sa sb na nb
      rw [hsa, hsb, hr] at h
      rw [← hn] at cb
      rcases h with ⟨_, e, h⟩ | ⟨e, _⟩
      · cases e
        rw [ca, cb, ← hom]
        exact ite_some h (fun e => ⟨ha, ca.trans (hbeq sa e).symm⟩) fun _ h =>
          ite_some h (fun e => ⟨hb, cb.trans (hbeq sb e).symm⟩) fun _ => hfrom m
      · cases e
    have hv' : versionLikeNames.contains a.name = false := by simpa using hv
    obtain ⟨ga, hga, sa⟩ := wf_gen_spec a ha.1 hv'
    obtain ⟨gb, hgb, sb⟩ := wf_gen_spec b hb.1 (hn ▸ hv')
    have hself : ga = gb → a.value = b.value → aspecB isAnd a.spec b.spec ≠ none := by
      intro e1 e2 hr
      rw [sa, sb, e1, e2, aspecB_self] at hr
      cases hr
    by_cases h2 : setNames.contains a.name = true
    · -- set-valued variables: `contains` / `not contains` combine with nothing but themselves, and two atoms with
      -- the same view are the same atom
      exfalso
      have h1 : a.name ≠ "extra" := by intro e; rw [e] at h2; cases h2
      have ca := ha.2; have cb := hb.2
      simp only [h1, hn ▸ h1, if_false, h2, hn ▸ h2, if_true] at ca cb
      rcases h with ⟨r, hr, _⟩ | ⟨_, e, _⟩
      · rw [sa, sb] at hr
        obtain ⟨gr, _, T⟩ := aspecB_gen isAnd _ _ r hr
        have hga4 : ¬ (GSpec.mk ga a.value).op.order < 4 := by
          rw [ca.1] at hga
          rcases ca.2 with c | c <;> rw [c] at hga <;> cases hga <;> simp [GOp.order]
        have hab : GSpec.mk ga a.value = ⟨gb, b.value⟩ := T.basic.resolve_right fun h' => hga4 h'.1
        have hg : ga = gb := congrArg GSpec.op hab
        have hop : a.op = b.op := (toGOp_back hga).symm.trans (hg ▸ toGOp_back hgb)
        have hval : a.value = b.value := congrArg GSpec.value hab
        exact hnb (by simp [Atom.beq, hn, hop, hval, ca.1, cb.1])
      · cases isAnd <;> rcases ca.2 with c | c <;> rw [c] at e <;> cases e
    by_cases h1 : a.name = "extra"
    · -- `extra`: atoms on one value have a common reading, and their views always combine
      have hval : a.value = b.value := by simpa [h1] using hex
      obtain ⟨t, ht⟩ := extra_reading env he a.value
      rcases h with ⟨r, hr, h⟩ | ⟨hr, oa, ob, _⟩
      · exact merge_gen_ok env a b isAnd t (ht a ha h1 rfl) (ht b hb (hn ▸ h1) hval.symm) ha hb r hr m h
      · rw [oa] at hga; rw [ob] at hgb
        exact absurd hr (hself (by cases isAnd <;> (cases hga; cases hgb; rfl)) hval)
    · -- string variables: the reading is the variable's value
      have hsn : StrName a.name := by
        have h2m : a.name ∉ setNames := by simpa using h2
        have hnvm : a.name ∉ versionLikeNames := by simpa using hv'
        have h3 : StrName a.name ∨ a.exactView = false := by simpa [h1, h2m, hnvm] using ha.2
        exact h3.resolve_right (by simp [hxa])
      obtain ⟨t, hta⟩ := strName_env env he _ hsn
      rcases h with ⟨r, hr, h⟩ | ⟨_, oa, ob, rfl⟩
      · exact merge_gen_ok env a b isAnd t (sem_str_atom ha.1 hsn hta)
          (sem_str_atom hb.1 (hn ▸ hsn) (hn ▸ hta)) ha hb r hr m h
      · refine ⟨good_strong _ _ hsn, ?_⟩
        rw [sem_strong _ hta, dedupS_pair, Bool.not_or, pol_and, pol_not, pol_not,
          sem_weakOp ha hsn hta _ oa, sem_weakOp hb (hn ▸ hsn) (hn ▸ hta) _ ob]

def NamedAfter (x y m : M) : Prop :=
  m = .empty ∨ m = .any ∨ m.isSingle = true ∧ (m.singleName? = x.singleName? ∨ m.singleName? = y.singleName?)

/-- what `x & y` / `x | y` answers for single markers: one marker, a constant or a single marker on the variable of
    an operand; or the two operands side by side, which are then different markers (never `MultiMarker(m, m)`,
    which would de-duplicate to one child: D23) -/
def Answers (x y : M) : SRes → Prop
  | .done m => NamedAfter x y m
  | .pair p q => (p = x ∧ q = y ∨ p = y ∧ q = x) ∧ beq p q = false

theorem NamedAfter.single {x y m : M} (hs : m.isSingle = true)
    (hn : m.singleName? = x.singleName? ∨ m.singleName? = y.singleName?) : NamedAfter x y m :=
  Or.inr (Or.inr ⟨hs, hn⟩)

theorem NamedAfter.absorbing {x y : M} (b : Bool) : NamedAfter x y (absorbing b) := by
  cases b; exact Or.inr (Or.inl rfl); exact Or.inl rfl

theorem singleName_of_beq {x y : M} (h : beq x y = true) : x.singleName? = y.singleName? := by
  have strip : ∀ z : M, (strip z).singleName? = z.singleName? := fun z => by cases z <;> rfl
  rw [← strip x, (beq_iff_strip x y).1 h, strip]

theorem fromSpecifier_ver (name : String) (s : Spec Ver) (m : M) (h : fromSpecifier name (.ver s) = some m) :
    (s.isAny = true ∧ m = .any) ∨ (s.isEmpty = true ∧ m = .empty) ∨
    ∃ c spec, s.isSimple = true ∧ fsClause? s = some c ∧
      getSpecifier name (MOp.ofCOp c.op) (fsText name c) false = some spec ∧
      m = .expr ⟨name, MOp.ofCOp c.op, fsText name c, false, spec⟩ := by
  unfold fromSpecifier at h
  refine ite_some h (fun h1 => .inl ⟨h1, rfl⟩) fun _ h => ite_some h (fun h2 => .inr (.inl ⟨h2, rfl⟩)) fun _ h => .inr (.inr ?_)
  dsimp only at h
  obtain ⟨h3, h⟩ := Option.ite_none_left_eq_some.1 h
  obtain ⟨c, hc, h⟩ := Option.bind_eq_some_iff.1 h
  obtain ⟨a, ha, rfl⟩ := Option.map_eq_some_iff.1 h
  obtain ⟨spec, hspec, rfl⟩ := Option.map_eq_some_iff.1 ha
  exact ⟨c, spec, by simpa using h3, hc, hspec, rfl⟩

theorem named_view {x y : M} (b : Bool) (u : View) (h : some u.name = x.singleName? ∨ some u.name = y.singleName?) :
    NamedAfter x y (u.toM b) :=
  have hs := u.name_toM b
  .single hs.1 (h.imp hs.2.trans hs.2.trans)

section named
variable {x y : M} {n : String} (h : some n = x.singleName? ∨ some n = y.singleName?)
include h

theorem named_repl (b : Bool) (l : List String) : NamedAfter x y (replB b n l) := by
  rw [replB_eq]
  match l with
  | [] => exact .absorbing b
  | [v] => exact .single rfl h
  | v :: w :: l => exact named_view b (.weak n (v :: w :: l)) h

theorem named_of_fromSpecifier (s : ASpec) (m : M) (hm : fromSpecifier n s = some m) : NamedAfter x y m := by
  cases s with
  | ver sp =>
    rcases fromSpecifier_ver n sp m hm with ⟨_, rfl⟩ | ⟨_, rfl⟩ | ⟨c, spec, _, _, _, rfl⟩
    · exact .inr (.inl rfl)
    · exact .inl rfl
    · exact .single rfl h
  | gen g =>
    replace hm : Option.bind _ _ = some m := hm
    obtain ⟨op, _, hm⟩ := Option.bind_eq_some_iff.1 hm
    obtain ⟨a, ha, rfl⟩ := Option.map_eq_some_iff.1 hm
    cases mkAtom_name n op g.value false a ha
    exact .single rfl h

end named

theorem mergeSingle_named (a c : Atom) (b : Bool) (m : M) (h : mergeSingle a c b = some m) :
    NamedAfter (.expr a) (.expr c) m := by
  have na : NamedAfter (.expr a) (.expr c) (.expr a) := .single rfl (Or.inl rfl)
  have nc : NamedAfter (.expr a) (.expr c) (.expr c) := .single rfl (Or.inr rfl)
  rcases mergeSingle_inv a c b m h with ⟨_, rfl⟩ | ⟨_, _, _, ⟨hpair, h⟩ | ⟨_, _, ⟨r, _, h⟩ | ⟨_, _, _, rfl⟩⟩⟩
  · exact na
  · -- python_version / python_full_version: the latter is the variable of one of the two
    obtain ⟨vm, fm, ns, r, hvf, _, hnf, _, _, h⟩ := mergePythonVersion_inv a c b m hpair h
    refine ite_some h (fun _ => ?_) fun _ => named_of_fromSpecifier ?_ r m
    · rcases hvf with ⟨rfl, _⟩ | ⟨rfl, _⟩
      · exact na
      · exact nc
    · rcases hvf with ⟨_, rfl⟩ | ⟨_, rfl⟩
      · exact Or.inr (congrArg some hnf.symm)
      · exact Or.inl (congrArg some hnf.symm)
  · exact ite_some h (fun _ => na) fun _ h => ite_some h (fun _ => nc) fun _ =>
      named_of_fromSpecifier (Or.inl rfl) r m
  · exact named_view b (.strong a.name _) (Or.inl rfl)

theorem Answers.symm {x y : M} {r : SRes} (h : Answers y x r) : Answers x y r := by
  cases r with
  | done m => exact h.imp_right (Or.imp_right (And.imp_right Or.symm))
  | pair p q => exact ⟨Or.symm h.1, h.2⟩

theorem Answers.cell {x y : M} {n m : String} {r : SRes} (hx : x.singleName? = some n) (hy : y.singleName? = some m)
    (h : n = m → Answers x y r) : Answers x y (if n != m then .pair x y else r) :=
  ite_cases (fun hnm => ⟨Or.inl ⟨rfl, rfl⟩, Bool.eq_false_iff.2 fun hb => by
      have := singleName_of_beq hb
      rw [hx, hy] at this
      cases this
      simp at hnm⟩)
    fun hnm => h (by simpa using hnm)

theorem group_answers (b : Bool) (u v : View) (hu : ∀ a, u ≠ .atom a) :
    Answers (u.toM b) (v.toM b) (groupB b u v) := by
  have hx := (u.name_toM b).2
  have hy := (v.name_toM b).2
  refine .cell hx hy fun _ => ?_
  cases u with
  | atom a => exact absurd rfl (hu a)
  | weak n vs => cases v <;> exact named_repl (Or.inl hx.symm) b _
  | strong n vs =>
    have nx : ∀ l, NamedAfter (strong b n vs) (v.toM b) (strong b n l) := fun l => named_view b (.strong n l) (Or.inl hx.symm)
    cases v with
    | atom c =>
      have nc : Answers (strong b n vs) (.expr c) (.done (.expr c)) := .single rfl (Or.inr rfl)
      -- a group and an atom are never equal
      exact ite_both (ite_both (NamedAfter.absorbing b) nc) (ite_both (ite_both (nx _) (nx _))
        (ite_both nc ⟨Or.inl ⟨rfl, rfl⟩, by cases b <;> rfl⟩))
    | weak m ws => exact named_repl (Or.inr hy.symm) b _
    | strong m ws => exact nx _

theorem singleB_answers (b : Bool) (x y : M) (sx : x.isSingle = true) (sy : y.isSingle = true) :
    Answers x y (singleB b x y) := by
  obtain ⟨u, rfl⟩ := single_view b x sx
  obtain ⟨v, rfl⟩ := single_view b y sy
  rw [singleB_view]
  cases u with
  | atom a =>
    cases v with
    | atom c =>
      show Answers _ _ (match mergeSingle a c b with | some m => .done m | none => .pair (.expr a) (.expr c))
      cases hm : mergeSingle a c b with
      | some m => exact mergeSingle_named a c b m hm
      | none =>
        -- an atom is merged with itself (a389c12), so two atoms left side by side are different
        refine ⟨Or.inl ⟨rfl, rfl⟩, Bool.eq_false_iff.2 fun hb => ?_⟩
        unfold mergeSingle at hm
        rw [if_pos (show a.beq c = true from hb)] at hm
        cases hm
    | _ => exact .symm (group_answers b _ (.atom a) fun _ h => nomatch h)
  | _ => exact group_answers b _ v fun _ h => nomatch h

/-- of `SingleSound`, what is asked of one answered marker (that a pair is the operands: `singleB_answers`) -/
def Means (env : Env) (b : Bool) (x y : M) : SRes → Prop
  | .done m => GAll (Good env) m ∧ sem env m = bop b (sem env x) (sem env y)
  | .pair _ _ => True

theorem Means.cell {env : Env} {b : Bool} {x y : M} {n m : String} {r : SRes} (h : n = m → Means env b x y r) :
    Means env b x y (if n != m then .pair x y else r) :=
  ite_cases (fun _ => trivial) fun hnm => h (by simpa using hnm)

theorem Means.symm {env : Env} {b : Bool} {x y : M} {r : SRes} (h : Means env b y x r) : Means env b x y r := by
  cases r with
  | done m => exact ⟨h.1, h.2.trans (bop_comm ..)⟩
  | pair p q => trivial

theorem Means.sound {env : Env} {b : Bool} {x y : M} {r : SRes} (h : Means env b x y r) (a : Answers x y r) :
    match (generalizing := false) r with
    | .done m => GAll (Good env) m ∧ sem env m = bop b (sem env x) (sem env y)
    | .pair p q => (p = x ∧ q = y) ∨ (p = y ∧ q = x) := by
  cases r with
  | done m => exact h
  | pair p q => exact a.1

/-- four cells of the table are one: the WEAK group loses the values the other operand, whatever it is, does not admit -/
theorem weak_cell {env : Env} (b : Bool) {n t : String} (hn : StrName n) (ht : env n = some (.str t)) (vs : List String) (y : M)
    (p : String → Bool) (hy : sem env y = pol b (p t)) :
    Means env b (weak b n vs) y (.done (replB b n (vs.filter p))) :=
  have ⟨r1, r2⟩ := replB_ok b hn ht (vs.filter p)
  ⟨r1, by rw [r2, contains_filter, pol_and, sem_weak b ht, hy]⟩

section
variable (env : Env) (he : EnvTotal env)
include he

theorem group_ok (b : Bool) (u v : View) (gx : Good env (u.toM b)) (gy : Good env (v.toM b)) :
    Means env b (u.toM b) (v.toM b) (groupB b u v) := by
  refine Means.cell fun e => ?_
  cases u with
  | atom a => trivial
  | weak n vs =>
    have hn : StrName n := by cases b <;> exact gx
    obtain ⟨t, ht⟩ := strName_env env he n hn
    cases v <;> dsimp only [cellB, View.toM, View.name] at e gy ⊢ <;> cases e
    · exact (weak_cell b hn ht _ _ _ (sem_weak b ht vs)).symm
    · exact weak_cell b hn ht vs _ _ (sem_strong b ht _)
    · refine weak_cell b hn ht vs _ _ ?_
      rw [pol_pol]
      exact sem_atom gy hn ht
  | strong n vs =>
    have hn : StrName n := by cases b <;> exact gx
    obtain ⟨t, ht⟩ := strName_env env he n hn
    have hx := sem_strong b ht vs
    cases v <;> dsimp only [cellB, View.toM, View.name] at e gy ⊢ <;> cases e
    · exact (weak_cell b hn ht _ _ _ hx).symm
    · exact ⟨good_strong b _ hn, by
        rw [hx, sem_strong b ht, sem_strong b ht, List.contains_append, contains_filter, not_or_and_not, pol_and]⟩
    · rename_i c
      have hmem : ∀ v, (t == v) = true → vs.contains v = vs.contains t := fun v e => by rw [eq_of_beq e]
      refine ite_cases (fun o1 => ?_) fun _ => ite_cases (fun o2 => ?_) fun _ => ite_cases (fun hq => ?_) fun _ => trivial
      · -- `c` is `== v` against a conjunction of `!=` (mirrored: `!= v` against a union of `==`)
        have hc := sem_weakOp gy hn ht b (eq_of_beq o1)
        refine ite_cases (fun hv => ⟨(GAll_const _ b).2, ?_⟩) fun hv => ⟨gy, ?_⟩
        · rw [hx, sem_absorbing, hc, bop_strong_clash]
          rw [pol_pol]
          exact fun e => hmem _ e ▸ hv
        · rw [hx, hc, bop_strong_keep]
          rw [pol_pol]
          intro e
          cases h : t == c.value
          · rfl
          · exact absurd (hmem _ h ▸ e) hv
      · -- `c` is one more `!= v` (mirrored: `== v`)
        have hc := sem_weakOp gy hn ht (!b) (eq_of_beq o2)
        rw [← pol_not] at hc
        refine ite_cases (fun hv => ⟨good_strong b _ hn, ?_⟩) fun _ => ⟨good_strong b _ hn, ?_⟩
        · rw [hx, hc, ← pol_and, ← Bool.not_or]
          cases h : t == c.value
          · rw [Bool.or_false]
          · rw [← hmem _ h, hv]; rfl
        · rw [hx, sem_strong b ht, List.contains_append, List.contains_cons, List.contains_nil, Bool.or_false, Bool.not_or, pol_and, hc]
      · -- `c` holds of none of the excluded values (mirrored: of all the admitted ones)
        exact ⟨gy, by rw [hx, sem_atom gy hn ht, bop_strong_keep _ _ _ (strong_expr_test b vs _ t hq)]⟩

end

theorem singleB_ok (env : Env) (he : EnvTotal env) (hF : FromSpecOk env) (hP : PyMergeOk env) (b : Bool) (x y : M)
    (sx : x.isSingle = true) (sy : y.isSingle = true) (gx : Good env x) (gy : Good env y) :
    Means env b x y (singleB b x y) := by
  obtain ⟨u, rfl⟩ := single_view b x sx
  obtain ⟨v, rfl⟩ := single_view b y sy
  rw [singleB_view]
  cases u with
  | atom a =>
    cases v with
    | atom c =>
      show Means env b _ _ (match mergeSingle a c b with | some m => .done m | none => .pair (.expr a) (.expr c))
      cases hm : mergeSingle a c b with
      | none => trivial
      | some m => exact mergeSingle_ok env he hF hP a c b gx gy m hm
    | _ => exact (group_ok env he b _ (.atom a) gy gx).symm
  | _ => exact group_ok env he b _ v gx gy

theorem singleSound (env : Env) (he : EnvTotal env) (hF : FromSpecOk env) (hP : PyMergeOk env) :
    SingleSound env (Good env) where
  and_ok x y sx sy gx gy := (singleB_ok env he hF hP true x y sx sy gx gy).sound (singleB_answers true x y sx sy)
  or_ok x y sx sy gx gy := (singleB_ok env he hF hP false x y sx sy gx gy).sound (singleB_answers false x y sx sy)

end M
end DepLogic
