import DepLogic.Proofs.FromSpec
/-
  `LexNormOk` is a theorem: the string surgery of `_normalize_python_version_specifier`, applied to
  the operand text `from_specifier` writes for a clause over a plain final release, computes the
  structured normalisation `normClause2` (or returns the atom's own view).
-/
namespace DepLogic
namespace M
open LinPre VOrd Spec Lex SpecParse

theorem splitDots_join (l : List String) (hl : l ≠ []) (h : ∀ t ∈ l, '.' ∉ t.toList) :
    splitDots (".".intercalate l) = l := by
  unfold splitDots
  rw [String.toList_intercalate]
  show List.map String.ofList (splitOnChar '.' (['.'].intercalate (l.map String.toList))) = l
  rw [splitOnChar_intercalate '.' _ (by simpa using hl) (by simpa using h), List.map_map]
  simp

theorem split_segs (c : Clause Ver) (hR : c.ver.release ≠ []) :
    (splitDots (".".intercalate (segs c))).map trimS = segs c := by
  have hall : ∀ t ∈ segs c, '.' ∉ t.toList ∧ ' ' ∉ t.toList := by
    intro t ht
    rcases List.mem_append.1 ht with ht | ht
    · obtain ⟨n, _, rfl⟩ := List.mem_map.1 ht
      rw [toString_toList]
      exact ⟨not_mem_digs n '.' (by decide), not_mem_digs n ' ' (by decide)⟩
    · by_cases hw : c.wild = true
      · rw [if_pos hw] at ht; cases List.mem_singleton.1 ht; decide
      · rw [if_neg hw] at ht; cases ht
  rw [splitDots_join _ (by simp [segs, hR]) (fun t ht => (hall t ht).1)]
  conv => rhs; rw [← List.map_id (segs c)]
  exact List.map_congr_left fun t ht => C11.trimS_of_no_blank t (hall t ht).2

theorem contains_star_false (rel : List Nat) : (rel.map toString).contains "*" = false := by
  induction rel with
  | nil => rfl
  | cons n ns ih =>
    simp only [List.map_cons, List.contains_cons, ih, Bool.or_false]
    -- `str(n)` consists of digits
    refine beq_eq_false_iff_ne.mpr fun e => not_mem_digs n '*' (by decide) ?_
    rw [← toString_toList, ← e]; decide

def dropZGo : List Nat → Nat → List Nat
  | r, 0 => r
  | [], _ + 1 => []
  | x :: rest, n + 1 => if x == 0 then dropZGo rest n else x :: rest

/-- `dropZeroSegs` on the numbers instead of their texts (`dropZeroSegs_map`) -/
def dropZ (l : List Nat) : List Nat := (dropZGo l.reverse (l.length - 2)).reverse

theorem go_map : ∀ (l : List Nat) (k : Nat), dropZeroSegs.go (l.map toString) k = (dropZGo l k).map toString
  | l, 0 => by cases l <;> simp [dropZeroSegs.go, dropZGo]
  | [], k + 1 => by simp [dropZeroSegs.go, dropZGo]
  | x :: rest, k + 1 => by
    simp only [List.map_cons, dropZeroSegs.go, dropZGo, natOfDigits_toString]
    by_cases hx : x = 0
    · subst hx; simp only [beq_self_eq_true, if_true]; exact go_map rest k
    · simp [hx]

theorem dropZeroSegs_map (l : List Nat) : dropZeroSegs (l.map toString) = (dropZ l).map toString := by
  unfold dropZeroSegs dropZ
  rw [← List.map_reverse, List.length_map, go_map, List.map_reverse]

theorem dropZGo_eq : ∀ (r : List Nat) (k : Nat), dropZGo r k = (r.take k).dropWhile (· == 0) ++ r.drop k
  | r, 0 => by cases r <;> rfl
  | [], _ + 1 => rfl
  | x :: rest, k + 1 => by
    rw [dropZGo, List.take_succ_cons, List.dropWhile_cons, List.drop_succ_cons]
    by_cases hx : (x == 0) = true
    · rw [if_pos hx, if_pos hx]; exact dropZGo_eq rest k
    · rw [if_neg hx, if_neg hx, List.cons_append, List.take_append_drop]

theorem dropZ_eq (l : List Nat) : dropZ l = l.take 2 ++ Ver.stripZeros (l.drop 2) := by
  have hn : l.take (l.length - (l.length - 2)) = l.take 2 ∧ l.drop (l.length - (l.length - 2)) = l.drop 2 := by
    by_cases h : 2 ≤ l.length
    · rw [show l.length - (l.length - 2) = 2 by omega]; exact ⟨rfl, rfl⟩
    · rw [List.take_of_length_le (by omega), List.take_of_length_le (by omega), List.drop_eq_nil_of_le (by omega),
        List.drop_eq_nil_of_le (by omega)]; exact ⟨rfl, rfl⟩
  unfold dropZ Ver.stripZeros
  rw [dropZGo_eq, List.reverse_append, List.take_reverse, List.drop_reverse, List.reverse_reverse, hn.1, hn.2]

theorem nth0_append_congr : ∀ (a : List Nat) {b b' : List Nat}, (∀ j, nth0 b j = nth0 b' j) →
    ∀ i, nth0 (a ++ b) i = nth0 (a ++ b') i
  | [], _, _, h, i => h i
  | _ :: _, _, _, _, 0 => rfl
  | _ :: a, _, _, h, i + 1 => by simpa using nth0_append_congr a h i

theorem nth0_dropZ (l : List Nat) (i : Nat) : nth0 (dropZ l) i = nth0 l i := by
  rw [dropZ_eq, nth0_append_congr _ (stripZeros_spec _).2, List.take_append_drop]

theorem dropZ_long (l : List Nat) (h : 2 < (dropZ l).length) : ∃ i, 2 ≤ i ∧ nth0 l i ≠ 0 := by
  rw [dropZ_eq, List.length_append, List.length_take] at h
  obtain ⟨hs, hn⟩ := stripZeros_spec (l.drop 2)
  obtain ⟨k, _, hk⟩ := Stripped_first_nonzero _ (fun e => by rw [e] at h; simp at h; omega) hs
  exact ⟨2 + k, by omega, by rw [← nth0_drop, ← hn]; omega⟩

theorem dropZ_ne_nil (l : List Nat) (h : l ≠ []) : dropZ l ≠ [] := fun e => by
  rw [dropZ_eq, List.append_eq_nil_iff, List.take_eq_nil_iff] at e
  exact e.1.elim (fun e2 => by cases e2) h

theorem parseSpecOpt_clause (c : Clause Ver) (hv : FinalV c.ver) (hw : c.wild = true → c.op = .eq ∨ c.op = .ne) :
    parseSpecOpt ((MOp.ofCOp c.op).str ++ ".".intercalate (segs c)) =
      (fromClause c).map fun sn => (Spec.range {}).and sn := by
  obtain ⟨h1, h2⟩ := lex_clause c hv
  simp only [parseSpecOpt, parseSpecString]
  rw [h2, h1, if_neg fun hn => hn.2 (hw hn.1)]
  simp only [Option.map_some, parseAlts, List.foldl_nil, parseAlt, fromSpecifierSet, List.foldl_cons, Option.bind_some]
  cases fromClause c <;> rfl

theorem pvBump_two (A B : Nat) : pvBump [toString A, toString B] = some [toString A, toString (B + 1)] := by
  have : [toString A, toString B].reverse = [toString B, toString A] := rfl
  unfold pvBump
  rw [this]
  simp only [natOfDigits_toString, Option.map_some]
  rfl

theorem all_digits_map (l : List Nat) :
    (l.map toString).all (fun p => (natOfDigits? p.toList).isSome) = true := by
  rw [List.all_eq_true]
  intro p hp
  obtain ⟨n, _, rfl⟩ := List.mem_map.1 hp
  rw [natOfDigits_toString]; rfl

theorem pvTarget_norm (cop : COp) (hc : cop ≠ .compat) (A B : Nat) :
    pvTarget (MOp.ofCOp cop) [toString A, toString B] =
      some (MOp.ofCOp (normClause2 cop A B).op, segs (normClause2 cop A B)) := by
  cases cop
  case compat => exact absurd rfl hc
  case gt => show Option.map _ (pvBump _) = _; rw [pvBump_two]; rfl
  case le => show Option.map _ (pvBump _) = _; rw [pvBump_two]; rfl
  all_goals rfl

theorem pad_two : ∀ l : List Nat, l ≠ [] → ¬ l.length > 2 →
    (if (l.length == 1) = true then l.map toString ++ ["0"] else l.map toString) =
      [toString (nth0 l 0), toString (nth0 l 1)] ∧ ∀ i, nth0 l i = nth0 [nth0 l 0, nth0 l 1] i
  | [], h, _ => absurd rfl h
  | [a], _, _ => ⟨by simp; rfl, fun i => by match i with | 0 => rfl | 1 => rfl | i + 2 => simp⟩
  | [a, b], _, _ => ⟨rfl, fun _ => rfl⟩
  | _ :: _ :: _ :: _, _, h => absurd (by simp) h

theorem lexNorm_final : LexNormOk := by
  intro c spec ns hv hwf hns
  have hval : fsText "python_version" c = ".".intercalate (segs c) := by rw [fsText_eq _ c hv, fsC_pv]
  have hopn : (MOp.ofCOp c.op == MOp.in_ || MOp.ofCOp c.op == MOp.notIn) = false := by cases c.op <;> rfl
  unfold normalizePythonVersion at hns
  simp only [pvAtom, hopn, Bool.false_eq_true, if_false, hval, split_segs c hv.2.2] at hns
  rcases c with ⟨cop, v, w⟩
  generalize hrel : v.release = rel at hns
  show (ns = spec ∧ _) ∨ _
  cases w with
  | true =>
    -- wildcard operand: returned unchanged
    left
    have : (rel.map toString ++ ["*"]).contains "*" = true := by simp
    simp only [segs, hrel, if_true, this] at hns
    by_cases hlen : (rel.map toString ++ ["*"]).length ≤ 3
    · rw [if_pos hlen] at hns
      exact ⟨(Option.some.inj hns).symm, Or.inl rfl, by simpa [hrel] using hlen⟩
    · rw [if_neg hlen] at hns; cases hns
  | false =>
    simp only [segs, hrel, Bool.false_eq_true, if_false, List.append_nil, contains_star_false] at hns
    by_cases hcomp : cop = .compat
    · -- `~=`: no dropping, no padding, the same text again
      subst hcomp
      left
      simp only [MOp.ofCOp, bne_self_eq_false, Bool.false_eq_true, if_false, Bool.and_false, all_digits_map,
        Bool.not_true, Bool.or_false] at hns
      by_cases hlen : (rel.map toString).length > 2
      · rw [if_pos (by simpa using hlen)] at hns; cases hns
      · rw [if_neg (by simpa using hlen)] at hns
        refine ⟨?_, Or.inr rfl, by simpa [hrel] using hlen⟩
        simp only [pvTarget, Option.bind_some] at hns
        have hwf : getSpecifier "python_version" .compat (fsText "python_version" ⟨.compat, v, false⟩) false = some spec := hwf
        rw [getSpecifier_cmp "python_version" .compat _ _ (by decide) ⟨nofun, nofun⟩, hval] at hwf
        simp only [segs, hrel, Bool.false_eq_true, if_false, List.append_nil] at hwf
        rw [hwf] at hns
        exact (Option.some.inj hns).symm
    · have hb := C11.ofCOp_bne_compat cop hcomp
      simp only [hb, if_true, dropZeroSegs_map, List.length_map, Bool.and_true, all_digits_map, Bool.not_true,
        Bool.or_false] at hns
      by_cases hlen : (dropZ rel).length > 2
      · rw [if_pos (by simpa using hlen)] at hns; cases hns
      · rw [if_neg (by simpa using hlen)] at hns
        right
        obtain ⟨hAB, hseq⟩ := pad_two (dropZ rel) (dropZ_ne_nil rel (hrel ▸ hv.2.2)) hlen
        obtain ⟨hfin, hw'⟩ := normClause2_ok cop (nth0 (dropZ rel) 0) (nth0 (dropZ rel) 1)
        rw [hAB, pvTarget_norm cop hcomp, Option.bind_some, parseSpecOpt_clause _ hfin hw'] at hns
        obtain ⟨sn, hfc, hsn⟩ := Option.map_eq_some_iff.1 hns
        obtain ⟨sn', hfc', rfl⟩ := Option.map_eq_some_iff.1 hfc
        exact ⟨_, _, sn', rfl, hcomp, hv.2.1, hv.1, fun i => by rw [hrel, ← nth0_dropZ rel i]; exact hseq i, hfc', hsn.symm⟩

end M
end DepLogic
