import DepLogic.Proofs.VersionOrder
import DepLogic.Model.Pep440
/-
  `python_version` atoms versus `python_full_version`: the structured content of
  `_normalize_python_version_specifier`.

  An interpreter has `python_full_version = X.Y.Z…` (final) and `python_version = X.Y`.
  `pyNorm_sem`: a clause `op A.B` evaluated on `X.Y` holds exactly when the normalised clause of
  single.py — `==`/`!=` ↦ `A.B.*`, `>` ↦ `>= A.(B+1)`, `<=` ↦ `< A.(B+1)`, `>=`/`<`/`~=` unchanged —
  holds on `X.Y.Z…`.  A lone `A` means `A.0` (`pad_one`).
-/
namespace DepLogic
open LinPre VOrd

/-- the final release with these components (epoch 0) -/
def fin (r : List Nat) : Ver := { release := r }

theorem fin_final (r : List Nat) : (fin r).isFinal = true := rfl

theorem lt_fin (x y : List Nat) : lt (fin x) (fin y) ↔ seqLt x y := by
  rw [lt_final _ _ (fin_final x) (fin_final y), seqLt_cons]
  simp [fin]

theorem le_fin (x y : List Nat) : le (fin x) (fin y) ↔ ¬ seqLt y x := by
  rw [le_iff_not_lt, lt_fin]

theorem seqLt_full_two (A B X Y : Nat) (zs : List Nat) : seqLt (X :: Y :: zs) [A, B] ↔ (X < A ∨ (X = A ∧ Y < B)) := by
  rw [seqLt_cons, seqLt_cons]
  have : ¬ seqLt zs [] := seqLt_nil_right zs
  constructor
  · rintro (h | ⟨h, h' | ⟨_, h'⟩⟩)
    · exact Or.inl h
    · exact Or.inr ⟨h, h'⟩
    · exact absurd h' this
  · rintro (h | ⟨h, h'⟩)
    · exact Or.inl h
    · exact Or.inr ⟨h, Or.inl h'⟩

theorem seqLt22 (A B X Y : Nat) : seqLt [A, B] [X, Y] ↔ (A < X ∨ (A = X ∧ B < Y)) :=
  seqLt_full_two X Y A B []

theorem seqLt_two_full (A B X Y : Nat) (zs : List Nat) :
    seqLt [A, B] (X :: Y :: zs) ↔ (A < X ∨ (A = X ∧ (B < Y ∨ (B = Y ∧ seqLt [] zs)))) := by
  rw [seqLt_cons, seqLt_cons]

theorem agrees_nil (v : List Nat) : agrees [] v := fun _ hi => absurd hi (Nat.not_lt_zero _)

theorem wild2 (A B X Y : Nat) (zs : List Nat) :
    Pep440.wildMatch (fin [A, B]) (fin (X :: Y :: zs)) = true ↔ (A = X ∧ B = Y) := by
  simp only [Pep440.wildMatch, fin, beq_self_eq_true, Bool.true_and, prefixMatch_iff, agrees_cons, agrees_nil,
    nth0_cons_zero, List.tail_cons, and_true]
  exact and_congr eq_comm eq_comm

theorem wild1 (A X Y : Nat) (zs : List Nat) :
    Pep440.wildMatch (fin [A]) (fin (X :: Y :: zs)) = true ↔ A = X := by
  simp only [Pep440.wildMatch, fin, beq_self_eq_true, Bool.true_and, prefixMatch_iff, agrees_cons, agrees_nil,
    nth0_cons_zero, and_true]
  exact eq_comm

/-- what the string surgery of `_normalize_python_version_specifier` does to a clause whose version
    has two components -/
def normClause2 (op : COp) (A B : Nat) : Clause Ver :=
  match op with
  | .eq => ⟨.eq, fin [A, B], true⟩
  | .ne => ⟨.ne, fin [A, B], true⟩
  | .gt => ⟨.ge, fin [A, B + 1], false⟩
  | .le => ⟨.lt, fin [A, B + 1], false⟩
  | o => ⟨o, fin [A, B], false⟩

theorem le_fin_two (A B X Y : Nat) (zs : List Nat) :
    le (fin [A, B]) (fin [X, Y]) ↔ le (fin [A, B]) (fin (X :: Y :: zs)) := by
  rw [le_fin, le_fin, seqLt22, seqLt_full_two]

theorem pyNorm_sem (op : COp) (A B X Y : Nat) (zs : List Nat) :
    Pep440.matchesFinal ⟨op, fin [A, B], false⟩ (fin [X, Y]) =
      Pep440.matchesFinal (normClause2 op A B) (fin (X :: Y :: zs)) := by
  have bump : lt (fin [A, B]) (fin [X, Y]) ↔ le (fin [A, B + 1]) (fin (X :: Y :: zs)) := by
    rw [lt_fin, le_fin, seqLt22, seqLt_full_two]; omega
  -- `== A.B` on `X.Y` is `== A.B.*` on `X.Y.Z…`; `!=` negates both sides
  have heq : Pep440.matchesFinal ⟨.eq, fin [A, B], false⟩ (fin [X, Y]) =
      Pep440.matchesFinal ⟨.eq, fin [A, B], true⟩ (fin (X :: Y :: zs)) := by
    refine congrArg some ?_
    rw [Bool.eq_iff_iff, wild2, decide_eq_true_iff]
    simp only [eqv, le_fin, seqLt22]; omega
  cases op
  case gt => exact congrArg some (decide_eq_decide.2 bump)
  case ge => exact congrArg some (decide_eq_decide.2 (le_fin_two A B X Y zs))
  case lt => exact congrArg some (decide_eq_decide.2 (not_congr (le_fin_two A B X Y zs)))
  case le => exact congrArg some (decide_eq_decide.2 ((le_iff_not_lt _ _).trans (not_congr bump)))
  case eq => exact heq
  case ne => exact congrArg (Option.map (!·)) heq
  case compat =>
    -- `~= A.B` is `>= A.B` together with `== A.*`, on either candidate
    have hc : ∀ v, Pep440.matchesFinal ⟨.compat, fin [A, B], false⟩ v =
        some (decide (le (fin [A, B]) v) && Pep440.wildMatch (fin [A]) v) := fun _ => rfl
    rw [hc]; refine (congrArg some ?_).trans (hc _).symm
    rw [Bool.eq_iff_iff, Bool.and_eq_true, Bool.and_eq_true, decide_eq_true_iff, decide_eq_true_iff,
      wild1 A X Y zs, wild1 A X Y [], le_fin, le_fin, seqLt22, seqLt_full_two]

theorem matchesFinal_congr (c d : Clause Ver) (ho : c.op = d.op) (hc : c.wild = false) (hd : d.wild = false)
    (hop : c.op ≠ .compat) (h : eqv c.ver d.ver) (v : Ver) : Pep440.matchesFinal c v = Pep440.matchesFinal d v := by
  rcases c with ⟨op, x, _⟩; rcases d with ⟨_, y, _⟩
  cases ho; cases hc; cases hd
  have l := le_congr_left h v
  have r := le_congr_right h v
  cases op
  case compat => exact absurd rfl hop
  all_goals simp only [Pep440.matchesFinal, lt, eqv, l, r]

/-- a lone major `A` is read as `A.0` (for every operator but `~=`, which is invalid on one component) -/
theorem pad_one (op : COp) (h : op ≠ .compat) (A : Nat) (v : Ver) (hv : v.isFinal = true) :
    Pep440.matchesFinal ⟨op, fin [A], false⟩ v = Pep440.matchesFinal ⟨op, fin [A, 0], false⟩ v :=
  matchesFinal_congr ⟨op, fin [A], false⟩ ⟨op, fin [A, 0], false⟩ rfl rfl rfl h
    (eqv_of_final_seq _ _ rfl rfl rfl fun i => (nth0_append_zero [A] i).symm) v

end DepLogic
