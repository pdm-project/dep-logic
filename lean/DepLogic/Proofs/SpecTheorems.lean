import DepLogic.Proofs.InvertLemmas
/-
  `Spec.and / or / invert`: exact meaning and canonical shape of the result.
-/
namespace DepLogic
open LinPre
namespace Spec
variable {α : Type} [LinPre α]

theorem canon_union_good {rs : List (Range α)} {t} (h : Canon (.union rs t)) : Good rs :=
  ⟨h.2.1, h.2.2⟩

theorem isAny_mem (r : Range α) (h : r.isAny = true) (v : α) : r.mem v :=
  (Range.mem_iff r v).2 (Range.isAny_between h _)

/-- Whenever a union is involved the result is the pairwise product, a range operand counting as the
    one-element list, but for the shortcut that returns the union when the range is universal.
    (Exactness holds of all objects: hence the hypotheses inside the first half.) -/
theorem and_spec (a b : Spec α) :
    (Canon a → Canon b → Canon (a.and b)) ∧ ∀ v, (a.and b).mem v ↔ (a.mem v ∧ b.mem v) := by
  have prod : ∀ xs ys : List (Range α), Good xs → Good ys → Canon (fromRanges (andProduct xs ys)) :=
    fun xs ys hx hy => fromRanges_canon _ (andProduct_good xs ys hx hy)
  fun_cases Spec.and a b with
  | case1 => exact ⟨fun _ _ => trivial, fun _ => iff_of_false id And.left⟩
  | case2 => exact ⟨fun _ hb => hb, fun _ => (and_iff_right trivial).symm⟩
  | case3 => exact ⟨fun _ _ => trivial, fun _ => iff_of_false id And.right⟩
  | case4 => exact ⟨fun ha _ => ha, fun _ => (and_iff_left trivial).symm⟩
  | case5 r o h => exact ⟨fun _ _ => trivial, fun v => iff_of_false id (Range.and_none h v)⟩
  | case6 r o x h => exact ⟨(Range.and_some h).WF, (Range.and_some h).mem⟩
  | case7 r ys yt h => exact ⟨fun _ hb => hb, fun v => (and_iff_right (isAny_mem r h v)).symm⟩
  | case8 r ys yt h =>
    exact ⟨fun ha hb => prod ys [r] (canon_union_good hb) (good_singleton r ha),
      fun v => by rw [fromRanges_mem, andProduct_mem, LMem_singleton]; exact and_comm⟩
  | case9 => exact ⟨fun _ _ => trivial, fun _ => iff_of_false id And.right⟩
  | case10 => exact ⟨fun ha _ => ha, fun _ => (and_iff_left trivial).symm⟩
  | case11 xs xt o h => exact ⟨fun ha _ => ha, fun v => (and_iff_left (isAny_mem o h v)).symm⟩
  | case12 xs xt o h =>
    exact ⟨fun ha hb => prod xs [o] (canon_union_good ha) (good_singleton o hb),
      fun v => by rw [fromRanges_mem, andProduct_mem, LMem_singleton]; rfl⟩
  | case13 xs _ ys _ =>
    exact ⟨fun ha hb => prod xs ys (canon_union_good ha) (canon_union_good hb),
      fun v => by rw [fromRanges_mem, andProduct_mem]; rfl⟩
theorem and_mem (a b : Spec α) (v : α) : (a.and b).mem v ↔ (a.mem v ∧ b.mem v) := (and_spec a b).2 v
theorem and_canon (a b : Spec α) (ha : Canon a) (hb : Canon b) : Canon (a.and b) := (and_spec a b).1 ha hb

theorem and_any_range (r : Range α) : (Spec.range ({} : Range α)).and (.range r) = .range r := by
  simp [Spec.and, Range.and, Range.isSuperset]

theorem any_and_mem (s : Spec α) (v : α) : ((Spec.range {}).and s).mem v ↔ s.mem v := by
  rw [and_mem]; simp [mem, Range.mem]

/-- `bm`: what the right operand admits, as a predicate, so that it can also be a list of ranges (`orFold_spec`) -/
def OrSpec (a : Spec α) (bm : α → Prop) (res : Option (Spec α)) : Prop :=
  ∃ r, res = some r ∧ Canon r ∧ ∀ v, r.mem v ↔ (a.mem v ∨ bm v)

theorem any_range_canon : Canon (.range (o : Range α)) ↔ o.WF := Iff.rfl

theorem unionOrRange_spec (xs : List (Range α)) (xt : Option (Clause α)) (hx : Canon (.union xs xt))
    (o : Range α) (ho : o.WF) : OrSpec (.union xs xt) o.mem (unionOrRange xs o) := by
  fun_cases unionOrRange xs o with
  | case1 hr => exact ⟨_, rfl, ho, fun v => by simp [mem, isAny_mem o hr v]⟩
  | case2 hr =>
    obtain ⟨ys, hys, hg, hm, _⟩ := orLoop_spec o xs ho (canon_union_good hx)
    refine ⟨fromRanges ys, by rw [hys]; rfl, fromRanges_canon ys hg, fun v => ?_⟩
    rw [fromRanges_mem, hm v]
    exact or_comm

theorem orRange_spec (s : Spec α) (hs : Canon s) (o : Range α) (ho : o.WF) :
    OrSpec s o.mem (orRange s o) := by
  fun_cases orRange s o with
  | case1 => exact ⟨_, rfl, ho, fun v => by simp [mem]⟩
  | case2 => exact ⟨_, rfl, trivial, fun v => by simp [mem]⟩
  | case3 a r h => exact ⟨_, rfl, (Range.or_one h).WF hs ho, (Range.or_one h).mem hs ho⟩
  | case4 a x y h =>
    -- the operands themselves, the lower first
    have pair : ∀ x y : Range α, x.WF → y.WF → sep x y → OrSpec (.range x) y.mem (some (.union [x, y] none)) :=
      fun x y hx hy hsep => ⟨_, rfl, ⟨Nat.le_refl 2, (good_cons.2 ⟨hx, List.forall_mem_singleton.2 hsep, good_singleton y hy⟩)⟩,
        fun v => (LMem_cons ..).trans (or_congr Iff.rfl (LMem_singleton ..))⟩
    obtain ⟨hxy, hsep⟩ := Range.or_two h
    rcases hxy with ⟨rfl, rfl⟩ | ⟨rfl, rfl⟩
    · exact pair _ _ hs ho hsep
    · obtain ⟨r, hr, hc, hm⟩ := pair _ _ ho hs hsep
      exact ⟨r, hr, hc, fun v => (hm v).trans or_comm⟩
  | case5 xs xt => exact unionOrRange_spec xs xt hs o ho
theorem orFold_spec (s : Spec α) (ys : List (Range α)) (hs : Canon s) (hy : ∀ y ∈ ys, y.WF) :
    OrSpec s (LMem ys) (orFold s ys) := by
  fun_induction orFold s ys with
  | case1 s => exact ⟨s, rfl, hs, fun v => by simp [LMem]⟩
  | case2 s y rest ih =>
    rw [List.forall_mem_cons] at hy
    obtain ⟨s', hs', hc', hm'⟩ := orRange_spec s hs y hy.1
    obtain ⟨r, hr, hc, hm⟩ := ih s' hc' hy.2
    exact ⟨r, by rw [hs']; exact hr, hc, fun v => by rw [hm v, hm' v, LMem_cons, or_assoc]⟩
theorem or_spec (a b : Spec α) (ha : Canon a) (hb : Canon b) : OrSpec a b.mem (a.or b) := by
  cases b with
  | empty => cases a <;> exact ⟨_, rfl, ha, fun v => (or_iff_left id).symm⟩
  | any => cases a <;> exact ⟨.any, rfl, trivial, fun v => (iff_true_intro (.inr trivial)).symm⟩
  | range o =>
    rw [show a.or (.range o) = orRange a o by cases a <;> rfl]
    exact orRange_spec a ha o hb
  | union ys yt =>
    cases a with
    | empty => exact ⟨_, rfl, hb, fun v => (or_iff_right id).symm⟩
    | any => exact ⟨.any, rfl, trivial, fun v => (iff_true_intro (.inl trivial)).symm⟩
    | range r =>
      -- reflected: `UnionSpecifier.__ror__`
      obtain ⟨s, h1, h2, h3⟩ := unionOrRange_spec ys yt hb r ha
      exact ⟨s, h1, h2, fun v => (h3 v).trans or_comm⟩
    | union xs xt => exact orFold_spec (.union xs xt) ys ha hb.2.1

theorem or_some {a b r : Spec α} (ha : Canon a) (hb : Canon b) (h : a.or b = some r) :
    Canon r ∧ ∀ v, r.mem v ↔ (a.mem v ∨ b.mem v) := by
  obtain ⟨r', h1, h2⟩ := or_spec a b ha hb
  rw [h] at h1; cases h1; exact h2

section invert
open Range

omit [LinPre α] in
theorem invertRange_eq (r : Range α) : invertRange r = invertUnion [r] := by
  rcases r with ⟨m, x, i, j, t⟩
  cases m <;> cases x <;> rfl

theorem invertUnion_spec (f : Range α) (rest : List (Range α)) (hg : Good (f :: rest)) :
    Canon (invertUnion (f :: rest)) ∧ ∀ v, (invertUnion (f :: rest)).mem v ↔ ¬ LMem (f :: rest) v := by
  have ih := gaps_spec f rest hg
  simp only [invertUnion]
  suffices h : Good (firstPiece f ++ gaps (f :: rest)) ∧
      ∀ v, LMem (firstPiece f ++ gaps (f :: rest)) v ↔ ∀ r ∈ f :: rest, ¬ r.mem v from
    ⟨fromRanges_canon _ h.1, fun v => by rw [fromRanges_mem, h.2 v]; simp [LMem]⟩
  cases hm : f.min with
  | none =>
    -- `f` starts at `⊥`: nothing lies below it
    simp only [firstPiece, hm, List.nil_append]
    refine ⟨ih.1, fun v => ?_⟩
    rw [ih.2.2 v, List.forall_mem_cons, not_mem_iff, lo_eq_bot hm]
    exact ⟨fun h => ⟨.inr h.1, h.2⟩, fun h => ⟨h.1.resolve_left fun h' => h' (Pos.bot_le _), h.2⟩⟩
  | some m =>
    -- the first piece `(-∞, m)` or `(-∞, m]` is one more step of the walk, from `⊥`
    have e : ({ max := some m, incMax := !f.incMin } : Range α).hi = f.lo := by
      simp only [hi, lo, hm]; exact Pos.upper_not m _
    simp only [firstPiece, hm, List.singleton_append]
    obtain ⟨h1, _, h3⟩ := piece_cons (p := .bot) rfl e rfl (by rw [lo, hm]; exact Pos.not_cut_le_bot _) hg ih
    exact ⟨h1, fun v => (h3 v).trans (and_iff_right (Pos.not_cut_le_bot _))⟩

theorem invert_spec (a : Spec α) (ha : Canon a) : Canon a.invert ∧ ∀ v, (a.invert).mem v ↔ ¬ a.mem v := by
  cases a with
  | empty => exact ⟨trivial, fun v => by simp [invert, mem]⟩
  | any => exact ⟨trivial, fun v => by simp [invert, mem]⟩
  | range r =>
    rw [invert, invertRange_eq]
    have h := invertUnion_spec r [] (good_singleton r ha)
    simp only [LMem_singleton] at h
    exact h
  | union rs t =>
    match rs, ha with
    | f :: rest, ha => exact invertUnion_spec f rest (canon_union_good ha)

theorem invert_mem (a : Spec α) (ha : Canon a) (v : α) : (a.invert).mem v ↔ ¬ a.mem v := (invert_spec a ha).2 v

theorem invert_canon (a : Spec α) (ha : Canon a) : Canon (a.invert) := (invert_spec a ha).1

end invert

end Spec
end DepLogic
