import DepLogic.Proofs.SpecLemmas
/-
  `~` : the gap walk of `UnionSpecifier.__invert__` (`RangeSpecifier.__invert__` is its one-element
  case: `invertRange_eq` in Proofs/SpecTheorems.lean).

  A piece of the complement starts exactly where a range ends and ends exactly where the next
  one starts: negating the inclusivity flag turns an upper end into the lower end at the same
  position (`Pos.lower_not`, `Pos.upper_not`).
-/
namespace DepLogic
open LinPre
namespace Spec
variable {α : Type} [LinPre α]
open Range

/-- one step of the `zip` walk of `UnionSpecifier.__invert__` -/
def gapR (a b : Range α) : Range α :=
  { min := a.max, incMin := !a.incMax, max := b.min, incMax := !b.incMin }

theorem gapR_ends (a b : Range α) (h : sep a b) :
    (gapR a b).lo = a.hi ∧ (gapR a b).hi = b.lo ∧ (gapR a b).ctorOk = true := by
  rcases a with ⟨amin, amax, ai, aa, at'⟩
  rcases b with ⟨bmin, bmax, bi, ba, bt⟩
  cases amax <;> cases bmin <;> simp only [sep] at h
  exact ⟨Pos.lower_not _ _, Pos.upper_not _ _, rfl⟩

/-- One step of the complement, from below: `G` holds the complement of `f :: rest` above `f`; in front of it
    comes the piece `g` from a position `p` to where `f` starts.  (`p` is the end of the range before, or `⊥`.) -/
theorem piece_cons {p : Pos α} {g f : Range α} {rest G : List (Range α)}
    (hlo : g.lo = p) (hhi : g.hi = f.lo) (hc : g.ctorOk = true) (hp : lt p f.lo) (hgood : Good (f :: rest))
    (ih : Good G ∧ (∀ x ∈ G, le f.hi x.lo) ∧ ∀ v, LMem G v ↔ (lt f.hi (Pos.pt v) ∧ ∀ r ∈ rest, ¬ r.mem v)) :
    Good (g :: G) ∧ (∀ x ∈ g :: G, le p x.lo) ∧
      ∀ v, LMem (g :: G) v ↔ (lt p (Pos.pt v) ∧ ∀ r ∈ f :: rest, ¬ r.mem v) := by
  obtain ⟨hf, hfsep, _⟩ := good_cons.1 hgood
  obtain ⟨ihg, ihlo, ihm⟩ := ih
  have hf := hf.lt
  refine ⟨good_cons.2 ⟨(WF_iff _).2 ⟨hc, by rw [hlo, hhi]; exact hp⟩, fun x hx => ?_, ihg⟩, fun x hx => ?_, fun v => ?_⟩
  · rw [sep_iff, hhi]; exact lt_of_lt_of_le hf (ihlo x hx)
  · rcases List.mem_cons.1 hx with rfl | hx
    · rw [hlo]; exact le_refl _
    · exact le_of_lt (lt_of_lt_of_le (lt_trans hp hf) (ihlo x hx))
  · rw [LMem_cons, ihm v, mem_iff, hlo, hhi, List.forall_mem_cons, not_mem_iff]
    constructor
    · rintro (⟨h1, h2⟩ | ⟨h1, h2⟩)
      · exact ⟨h1, Or.inl h2, fun r hr => (not_mem_iff r v).2
          (Or.inl (lt_trans h2 (lt_trans hf (hfsep r hr).lt)))⟩
      · exact ⟨lt_trans hp (lt_trans hf h1), Or.inr h1, h2⟩
    · rintro ⟨h1, h2 | h2, h3⟩
      · exact Or.inl ⟨h1, h2⟩
      · exact Or.inr ⟨h2, h3⟩

theorem gaps_spec : ∀ (a : Range α) (rest : List (Range α)), Good (a :: rest) →
    Good (gaps (a :: rest)) ∧ (∀ g ∈ gaps (a :: rest), le a.hi g.lo) ∧
      ∀ v, LMem (gaps (a :: rest)) v ↔ (lt a.hi (Pos.pt v) ∧ ∀ r ∈ rest, ¬ r.mem v)
  | a, [], _ => by
    unfold gaps
    cases hx : a.max with
    | none =>
      exact ⟨⟨by simp, by simp⟩, by simp, fun v => by simp [hi_eq_top hx, lt]⟩
    | some m =>
      -- the last piece `(m, +∞)` or `[m, +∞)`
      have e : ({ min := some m, incMin := !a.incMax } : Range α).lo = a.hi := by
        simp only [hi, lo, hx]; exact Pos.lower_not m _
      refine ⟨good_singleton _ ((WF_iff _).2 ⟨rfl, e ▸ ?_⟩), fun g hg => ?_, fun v => ?_⟩
      · rw [hi, hx]; exact Pos.not_top_le_cut _
      · rw [List.mem_singleton.1 hg, e]; exact le_refl _
      · rw [LMem_singleton, mem_iff, e]
        exact ⟨fun h => ⟨h.1, fun _ hr => (List.not_mem_nil hr).elim⟩, fun h => ⟨h.1, Pos.not_top_le_cut _⟩⟩
  | a, b :: rest, hl => by
    obtain ⟨_, hab, hgood⟩ := good_cons.1 hl
    obtain ⟨e1, e2, e3⟩ := gapR_ends a b (hab b List.mem_cons_self)
    exact piece_cons e1 e2 e3 (hab b List.mem_cons_self).lt hgood (gaps_spec b rest hgood)

end Spec
end DepLogic
