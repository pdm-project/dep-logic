import DepLogic.Proofs.CanonUnique
/-
  `==` is reflexive and symmetric on all objects, and transitive between canonical ones
  (`beq_trans`).  The exactness theorems of the algebra read over cuts (by the embedding `Cut.ι` of
  Proofs/CanonUnique.lean); `==` objects have the same cuts (the converse, for canonical objects, is
  `canon_unique`); `Den` packages both.
-/
namespace DepLogic
namespace Spec
open LinPre
variable {α : Type} [LinPre α]

theorem _root_.DepLogic.Range.beq_refl (r : Range α) : r.beq r = true := by
  have rf := @LinPre.le_refl α _
  rcases r with ⟨mn, mx, i, a, t⟩
  cases mn <;> cases mx <;> simp [Range.beq, rf]

theorem _root_.DepLogic.Range.beq_symm (r o : Range α) : r.beq o = o.beq r := by
  rcases r with ⟨mn, mx, i, a, t⟩
  rcases o with ⟨mn', mx', i', a', t'⟩
  simp only [Range.beq]
  congr 1; congr 1; congr 1
  · cases mn <;> cases mn' <;> simp [eqv, and_comm]
  · cases mx <;> cases mx' <;> simp [eqv, and_comm]
  · exact Bool.beq_comm
  · exact Bool.beq_comm

theorem beqL_refl : ∀ xs : List (Range α), beqL xs xs = true
  | [] => rfl
  | x :: xs => by rw [beqL_cons, Range.beq_refl, beqL_refl xs]; rfl

theorem beqL_symm : ∀ xs ys : List (Range α), beqL xs ys = beqL ys xs
  | [], [] | [], _ :: _ | _ :: _, [] => rfl
  | x :: xs, y :: ys => by rw [beqL_cons, beqL_cons, Range.beq_symm, beqL_symm xs ys]

theorem beq_refl (s : Spec α) : s.beq s = true := by
  cases s with
  | empty => rfl
  | any => rfl
  | range r => exact Range.beq_refl r
  | union rs t => exact beqL_refl rs

theorem beq_symm (a b : Spec α) : a.beq b = b.beq a := by
  -- only two pairs of classes compare bounds; `AnySpecifier()` against a range asks `is_any()` either way
  cases a <;> cases b <;> try rfl
  · exact Range.beq_symm _ _
  · exact beqL_symm _ _

theorem and_memC (a b : Spec α) (x : α) (s : Nat) : (a.and b).memC x s ↔ (a.memC x s ∧ b.memC x s) := by
  simp only [memC, ← map_and]
  exact and_mem _ _ _

theorem or_memC (a b : Spec α) (ha : Canon a) (hb : Canon b) :
    ∃ r, a.or b = some r ∧ Canon r ∧ ∀ x s, r.memC x s ↔ (a.memC x s ∨ b.memC x s) := by
  obtain ⟨r', h1, h2, h3⟩ := or_spec (a.map Cut.ι.f) (b.map Cut.ι.f) ((map_canon Cut.ι a).2 ha) ((map_canon Cut.ι b).2 hb)
  rw [map_or, Option.map_eq_some_iff] at h1
  obtain ⟨r, hr, rfl⟩ := h1
  exact ⟨r, hr, (map_canon Cut.ι r).1 h2, fun x s => h3 ⟨x, s⟩⟩

theorem invert_memC (a : Spec α) (ha : Canon a) (x : α) (s : Nat) : (a.invert).memC x s ↔ ¬ a.memC x s := by
  simp only [memC, ← map_invert]
  exact invert_mem _ ((map_canon Cut.ι a).2 ha) _

theorem memC_any (x : α) (s : Nat) : (Spec.any : Spec α).memC x s := trivial

theorem memC_empty (x : α) (s : Nat) : ¬ (Spec.empty : Spec α).memC x s := id

theorem memC_isAny (r : Range α) (h : r.isAny = true) (x : α) (s : Nat) : (Spec.range r).memC x s :=
  (memC_range r x s).2 (Range.isAny_between h _)

theorem memC_of_beq (a b : Spec α) (h : a.beq b = true) (x : α) (s : Nat) : a.memC x s ↔ b.memC x s := by
  -- a cut between the ends of a range lies between the ends of its partner
  have one : ∀ a b : Spec α, a.beq b = true → a.memC x s → b.memC x s := fun a b h hm => by
    obtain ⟨r, hr, hm⟩ := (memC_toL a x s).1 hm
    obtain ⟨q, hq, e1, e2⟩ := ends_of_beq a b h r hr
    exact (memC_toL b x s).2 ⟨q, hq, lt_of_le_of_lt e1.2 hm.1, lt_of_lt_of_le hm.2 e2.1⟩
  exact ⟨one a b h, one b a (beq_symm a b ▸ h)⟩

theorem beq_trans (a0 : α) (a b c : Spec α) (ha : Canon a) (hc : Canon c)
    (h1 : a.beq b = true) (h2 : b.beq c = true) : a.beq c = true :=
  canon_unique a0 a c ha hc fun x s => (memC_of_beq a b h1 x s).trans (memC_of_beq b c h2 x s)

/-- `Den x P`: `x` is a canonical object and `P` the set of cuts it denotes (a cut given by its two components,
    as for `Spec.memC`).  The operators act on it as the set operations and two objects that denote the same set
    are `==` (`Den.beq`): a law of sets, read off two expressions, is a law about the objects they return. -/
structure Den (x : Spec α) (P : α → Nat → Prop) : Prop where
  canon : Canon x
  memC : ∀ y s, x.memC y s ↔ P y s

theorem Canon.den {a : Spec α} (ha : Canon a) : Den a a.memC := ⟨ha, fun _ _ => Iff.rfl⟩

namespace Den
variable {a b : Spec α} {P Q : α → Nat → Prop}

theorem empty : Den (.empty : Spec α) fun _ _ => False := ⟨trivial, fun y s => iff_false_intro (memC_empty y s)⟩

theorem any : Den (.any : Spec α) fun _ _ => True := ⟨trivial, fun y s => iff_true_intro (memC_any y s)⟩

theorem and (ha : Den a P) (hb : Den b Q) : Den (a.and b) fun y s => P y s ∧ Q y s :=
  ⟨and_canon _ _ ha.canon hb.canon, fun y s => by rw [and_memC, ha.memC, hb.memC]⟩

theorem invert (ha : Den a P) : Den a.invert fun y s => ¬ P y s :=
  ⟨invert_canon _ ha.canon, fun y s => by rw [invert_memC _ ha.canon, ha.memC]⟩

theorem or (ha : Den a P) (hb : Den b Q) : ∃ r, a.or b = some r ∧ Den r fun y s => P y s ∨ Q y s := by
  obtain ⟨r, h, hc, hm⟩ := or_memC a b ha.canon hb.canon
  exact ⟨r, h, hc, fun y s => by rw [hm, ha.memC, hb.memC]⟩

theorem beq (a0 : α) (ha : Den a P) (hb : Den b Q) (h : ∀ y s, P y s ↔ Q y s) : a.beq b = true :=
  canon_unique a0 a b ha.canon hb.canon fun y s => by rw [ha.memC, hb.memC]; exact h y s

theorem eq_empty (a0 : α) (ha : Den a P) (h : ∀ y s, ¬ P y s) : a = .empty := by
  have := ha.beq a0 empty fun y s => iff_false_intro (h y s)
  cases a <;> simp [Spec.beq, Spec.isAny] at this ⊢

theorem isAny (a0 : α) (ha : Den a P) (h : ∀ y s, P y s) : a.isAny = true :=
  any.beq a0 ha fun y s => (iff_true_intro (h y s)).symm

end Den

end Spec
end DepLogic
