import DepLogic.Model.Range
/-
  Model of `specifiers/union.py`, `specifiers/special.py` and of CPython's binary
  operator dispatch between the specifier classes (`NotImplemented` → reflected
  method).  `ArbitrarySpecifier` (`===`) is *not* modelled: every property excludes
  it or allows it to raise; the harness checks it against the oracle directly.
-/
namespace DepLogic
open LinPre

/-- A version specifier object. `union rs text`: `UnionSpecifier(ranges, simplified)`. -/
inductive Spec (α : Type) where
  | empty                                   -- EmptySpecifier()
  | any                                     -- AnySpecifier()
  | range (r : Range α)                     -- RangeSpecifier(...)
  | union (rs : List (Range α)) (text : Option (Clause α))  -- UnionSpecifier(...)
deriving Repr, DecidableEq

namespace Spec
variable {α : Type} [LinPre α]

/-- `UnionSpecifier._from_ranges` (union.py:89-96). -/
def fromRanges : List (Range α) → Spec α
  | [] => .empty
  | [r] => .range r
  | rs => .union rs none

/-- Interval reading. -/
def mem : Spec α → α → Prop
  | .empty, _ => False
  | .any, _ => True
  | .range r, v => r.mem v
  | .union rs _, v => ∃ r ∈ rs, r.mem v

instance (s : Spec α) (v : α) : Decidable (s.mem v) := by
  cases s <;> unfold mem <;> exact inferInstance

def isEmpty : Spec α → Bool
  | .empty => true
  | _ => false

def isAny : Spec α → Bool
  | .any => true
  | .range r => r.isAny
  | _ => false

/-- `RangeSpecifier.__invert__` (range.py:91-104). -/
def invertRange (r : Range α) : Spec α :=
  match r.min, r.max with
  | none, none => .empty
  | some mn, none => .range { max := some mn, incMax := !r.incMin }
  | none, some mx => .range { min := some mx, incMin := !r.incMax }
  | some mn, some mx =>
    .union [{ max := some mn, incMax := !r.incMin }, { min := some mx, incMin := !r.incMax }] none

/-- the `zip(self.ranges, self.ranges[1:])` gap walk of `UnionSpecifier.__invert__`,
    followed by the optional last piece. -/
def gaps : List (Range α) → List (Range α)
  | [] => []
  | [l] =>
    match l.max with
    | none => []
    | some mx => [{ min := some mx, incMin := !l.incMax }]
  | a :: b :: rest =>
    { min := a.max, incMin := !a.incMax, max := b.min, incMax := !b.incMin } :: gaps (b :: rest)

/-- `if (first := self.ranges[0]).min is not None: to_union.append(...)` -/
def firstPiece (f : Range α) : List (Range α) :=
  match f.min with
  | none => []
  | some mn => [{ max := some mn, incMax := !f.incMin }]

/-- `UnionSpecifier.__invert__` (union.py:108-127).  Note: the middle pieces are built
    with `RangeSpecifier(min=a.max, include_min=not a.include_max, …)`, whose constructor
    raises when `a.max is None`; between two ranges that are `sep`arated it is not. -/
def invertUnion (rs : List (Range α)) : Spec α :=
  fromRanges ((match rs with | [] => [] | f :: _ => firstPiece f) ++ gaps rs)

/-- `for range in self.ranges` loop of `UnionSpecifier.__or__` (union.py:158-173) with a
    `RangeSpecifier` operand.  `none`: `other | range` came back as a union although
    `can_combine` said yes (the Python would then fail with AttributeError). -/
def orLoop (other : Range α) : List (Range α) → Option (List (Range α))
  | [] => some [other]
  | r :: rest =>
    if r.canCombine other then
      match other.or r with
      | .one x => orLoop x rest
      | .two _ _ => none
    else if other.allowsLower r then some (other :: r :: rest)
    else (orLoop other rest).map (r :: ·)

/-- pairwise product of `UnionSpecifier.__and__` (union.py:143-148). -/
def andProduct (xs ys : List (Range α)) : List (Range α) :=
  xs.flatMap fun a => ys.filterMap fun b => a.and b

/-- `a & b` with CPython dispatch. -/
def and : Spec α → Spec α → Spec α
  | .empty, _ => .empty                       -- EmptySpecifier.__and__
  | .any, o => o                              -- AnySpecifier.__and__
  | .range _, .empty => .empty                -- NotImplemented → EmptySpecifier.__rand__
  | .range r, .any => .range r                -- NotImplemented → AnySpecifier.__rand__
  | .range a, .range b =>
    match a.and b with
    | none => .empty
    | some r => .range r
  | .range a, .union ys yt =>                 -- NotImplemented → UnionSpecifier.__rand__
    if a.isAny then .union ys yt else fromRanges (andProduct ys [a])
  | .union _ _, .empty => .empty
  | .union xs xt, .any => .union xs xt
  | .union xs xt, .range o =>
    if o.isAny then .union xs xt else fromRanges (andProduct xs [o])
  | .union xs _, .union ys _ => fromRanges (andProduct xs ys)

/-- `UnionSpecifier.__or__` with a range operand.  `none` = crash. -/
def unionOrRange (xs : List (Range α)) (o : Range α) : Option (Spec α) :=
  if o.isAny then some (.range o) else (orLoop o xs).map fromRanges

/-- `result | range` in the fold of `UnionSpecifier.__or__(union)`; `result` is whatever
    the previous step returned. -/
def orRange (s : Spec α) (o : Range α) : Option (Spec α) :=
  match s with
  | .empty => some (.range o)
  | .any => some .any
  | .range a =>
    match a.or o with
    | .one r => some (.range r)
    | .two x y => some (.union [x, y] none)
  | .union xs _ => unionOrRange xs o

def orFold (s : Spec α) : List (Range α) → Option (Spec α)
  | [] => some s
  | r :: rest => (orRange s r).bind fun s' => orFold s' rest

/-- `a | b` with CPython dispatch.  `none` = the Python crashes (never, for canonical
    operands: theorem `Spec.or_spec`). -/
def or : Spec α → Spec α → Option (Spec α)
  | .empty, o => some o
  | .any, _ => some .any
  | .range r, .empty => some (.range r)       -- NotImplemented → EmptySpecifier.__ror__
  | .range _, .any => some .any               -- NotImplemented → AnySpecifier.__ror__
  | .range a, .range b => orRange (.range a) b
  | .range a, .union ys _ => unionOrRange ys a  -- NotImplemented → UnionSpecifier.__ror__
  | .union xs xt, .empty => some (.union xs xt)
  | .union _ _, .any => some .any
  | .union xs _, .range o => unionOrRange xs o
  | .union xs xt, .union ys _ => orFold (.union xs xt) ys

/-- `~a`. -/
def invert : Spec α → Spec α
  | .empty => .any
  | .any => .empty
  | .range r => invertRange r
  | .union rs _ => invertUnion rs

/-- Python `a == b` between specifier objects, with the `NotImplemented` → reflected
    `__eq__` → identity fallback. -/
def beq : Spec α → Spec α → Bool
  | .empty, .empty => true
  | .empty, _ => false
  | .any, o => o.isAny                         -- AnySpecifier.__eq__: other.is_any()
  | .range r, .any => r.isAny                  -- dataclass eq NotImplemented → reflected
  | .range a, .range b => a.beq b
  | .range _, _ => false
  | .union xs _, .union ys _ =>
    xs.length == ys.length && (xs.zip ys).all fun p => p.1.beq p.2
  | .union _ _, _ => false

/-- The canonical shape C05 names.  `sep a b`: `a` lies strictly below `b` and they do
    not touch (`a.max < b.min`, or equal bounds both exclusive). -/
def sep (a b : Range α) : Prop :=
  match a.max, b.min with
  | some x, some y => lt x y ∨ (eqv x y ∧ a.incMax = false ∧ b.incMin = false)
  | _, _ => False

instance (a b : Range α) : Decidable (sep a b) := by
  unfold sep; cases a.max <;> cases b.min <;> exact inferInstance

def Canon : Spec α → Prop
  | .empty => True
  | .any => True
  | .range r => r.WF
  | .union rs _ => 2 ≤ rs.length ∧ (∀ r ∈ rs, r.WF) ∧ rs.Pairwise sep

instance (s : Spec α) : Decidable (Canon s) := by
  cases s <;> unfold Canon <;> exact inferInstance

end Spec
end DepLogic
