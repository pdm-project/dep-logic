import DepLogic.Model.Order
/-
  Public PEP 440 versions as `packaging.version.Version` holds them, and their order
  (`Version._key`, packaging/version.py `_cmpkey`).  Local versions (`+x`) are outside
  every specifier claim and are not modelled.
-/
namespace DepLogic

inductive PreKind where
  | a | b | rc
deriving DecidableEq, Repr

def PreKind.rank : PreKind → Nat
  | .a => 1 | .b => 2 | .rc => 3

def PreKind.str : PreKind → String
  | .a => "a" | .b => "b" | .rc => "rc"

/-- `Version(epoch, release, pre, post, dev)`; `release` as written (trailing zeros kept:
    `1.0` and `1.0.0` are different values that compare equal). -/
structure Ver where
  epoch : Nat := 0
  release : List Nat
  pre : Option (PreKind × Nat) := none
  post : Option Nat := none
  dev : Option Nat := none
deriving DecidableEq, Repr

namespace Ver

/-- drop trailing zeros (`_cmpkey`: "1.0.0 compares equal to 1") -/
def stripZeros (l : List Nat) : List Nat := (l.reverse.dropWhile (· == 0)).reverse

/-- `_cmpkey` flattened into one list compared lexicographically.  Release components are
    shifted by one and terminated by `0`, so that a shorter release sorts first and the
    fixed-length suffix (pre, post, dev ranks) is compared only for equal releases –
    exactly Python's tuple comparison of `(epoch, release, suffix)`.
    pre: dev release without pre/post ↦ `[0,0]`, a/b/rc n ↦ `[1..3,n]`, no pre ↦ `[4,0]` (`pre_rank + 1`);
    post: none ↦ `[0]`, n ↦ `[n+1]`;  dev: n ↦ `[0,n]`, none ↦ `[1,0]`. -/
def key (v : Ver) : List Nat :=
  [v.epoch] ++ (stripZeros v.release).map (· + 1) ++ [0] ++
  (match v.pre, v.post, v.dev with
   | none, none, some _ => [0, 0]
   | none, _, _ => [4, 0]
   | some (k, n), _, _ => [k.rank, n]) ++
  (match v.post with
   | none => [0]
   | some n => [n + 1]) ++
  (match v.dev with
   | none => [1, 0]
   | some n => [0, n])

instance : LinPre Ver where
  le a b := a.key ≤ b.key
  decLe := fun a b => inferInstanceAs (Decidable (a.key ≤ b.key))
  le_refl a := List.le_refl a.key
  le_trans _ _ _ := List.le_trans
  le_total a b := List.le_total a.key b.key

/-- `Version.is_prerelease`: `dev is not None or pre is not None` -/
def isPrerelease (v : Ver) : Bool := v.dev.isSome || v.pre.isSome
def isPostrelease (v : Ver) : Bool := v.post.isSome
/-- final release: `N(.N)*` with no suffix and epoch written or not -/
def isFinal (v : Ver) : Bool := v.pre.isNone && v.post.isNone && v.dev.isNone

/-- `str(Version)` -/
def str (v : Ver) : String :=
  (if v.epoch != 0 then toString v.epoch ++ "!" else "") ++
  ".".intercalate (v.release.map toString) ++
  (match v.pre with | none => "" | some (k, n) => k.str ++ toString n) ++
  (match v.post with | none => "" | some n => ".post" ++ toString n) ++
  (match v.dev with | none => "" | some n => ".dev" ++ toString n)

end Ver
end DepLogic
