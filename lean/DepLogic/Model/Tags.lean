import DepLogic.Model.SpecText
/-
  Model of `src/dep_logic/tags/platform.py` (Arch, Platform.parse, Platform.compatible_tags) and `src/dep_logic/tags/tags.py` (EnvSpec._evaluate_python, _evaluate_platform,
  compatibility, compare, parse_wheel_tags).
-/
namespace DepLogic

inductive Arch where
  | aarch64 | armv6l | armv7l | ppc64le | ppc64 | x86 | x86_64 | s390x | riscv64 | loongarch64
deriving DecidableEq, Repr

namespace Arch
def str : Arch → String
  | aarch64 => "aarch64" | armv6l => "armv6l" | armv7l => "armv7l" | ppc64le => "ppc64le" | ppc64 => "ppc64"
  | x86 => "x86" | x86_64 => "x86_64" | s390x => "s390x" | riscv64 => "riscv64" | loongarch64 => "loongarch64"

/-- `Arch.parse` (platform.py:379-387); `none` = `ValueError` -/
def parse? : String → Option Arch
  | "i386" | "i686" => some x86
  | "amd64" => some x86_64
  | "arm64" => some aarch64
  | "aarch64" => some aarch64 | "armv6l" => some armv6l | "armv7l" => some armv7l | "ppc64le" => some ppc64le
  | "ppc64" => some ppc64 | "x86" => some x86 | "x86_64" => some x86_64 | "s390x" => some s390x
  | "riscv64" => some riscv64 | "loongarch64" => some loongarch64
  | _ => none

/-- `get_minimum_manylinux_minor` -/
def minManylinuxMinor : Arch → Option Nat
  | aarch64 | armv7l | ppc64 | ppc64le | s390x | riscv64 => some 17
  | x86 | x86_64 => some 5
  | _ => none

/-- `get_mac_binary_formats` -/
def macFormats : Arch → List String
  | aarch64 => ["arm64", "universal2"]
  | x86_64 => ["x86_64", "intel", "fat64", "fat32", "universal2", "universal"]
  | a => [a.str]
end Arch

/-- the four OS families C09/C16/C18 claim, and the classes without an order -/
inductive Os where
  | manylinux (major minor : Nat)
  | musllinux (major minor : Nat)
  | windows
  | macos (major minor : Nat)
  /-- the OS classes whose releases cannot be ordered: `FreeBsd`/`NetBsd`/`OpenBsd`/`Dragonfly`/`Haiku`
      (`cls` = the lower-case class name, `rel` = the release string) and `Generic` (`cls = "generic"`,
      `rel` = the name) -/
  | unordered (cls rel : String)
deriving DecidableEq, Repr

structure Platform where
  os : Os
  arch : Arch
deriving DecidableEq, Repr

/-- structured platform tags; `PTag.str` is what the code appends -/
inductive PTag where
  | manylinux (major minor : Nat) (arch : Arch)
  | legacy (year : String) (arch : Arch)       -- manylinux1 / manylinux2010 / manylinux2014
  | linux (arch : Arch)
  | musllinux (major minor : Nat) (arch : Arch)
  | macosx (major minor : Nat) (fmt : String)
  | win (name : String)
deriving DecidableEq, Repr

def PTag.str : PTag → String
  | .manylinux a b arch => s!"manylinux_{a}_{b}_{arch.str}"
  | .legacy y arch => s!"manylinux{y}_{arch.str}"
  | .linux arch => s!"linux_{arch.str}"
  | .musllinux a b arch => s!"musllinux_{a}_{b}_{arch.str}"
  | .macosx a b fmt => s!"macosx_{a}_{b}_{fmt}"
  | .win n => n

/-- the legacy alias appended right after `manylinux_2_K` -/
def legacyFor (minor : Nat) (arch : Arch) : List PTag :=
  (if minor == 12 then [.legacy "2010" arch] else []) ++
  (if minor == 17 then [.legacy "2014" arch] else []) ++
  (if minor == 5 then [.legacy "1" arch] else [])

/-- `for minor in range(os.minor, min_minor - 1, -1)`: `cnt` iterations starting at `hi` -/
def manylinuxLoop (major : Nat) (arch : Arch) : (cnt : Nat) → (hi : Nat) → List PTag
  | 0, _ => []
  | cnt + 1, hi => (.manylinux major hi arch :: legacyFor hi arch) ++ manylinuxLoop major arch cnt (hi - 1)

/-- `cnt` values downwards from `hi`; `rangeDown hi lo` is `for x in range(hi, lo, -1)`: hi, hi-1, …, lo+1 -/
def downFrom (lo : Nat) : (cnt : Nat) → (hi : Nat) → List Nat
  | 0, _ => []
  | cnt + 1, hi => hi :: downFrom lo cnt (hi - 1)

def rangeDown (hi lo : Nat) : List Nat := downFrom lo (hi - lo) hi

def replaceChars (s : String) : String :=
  String.ofList (s.toList.map fun c => if c == '.' || c == '-' then '_' else c)

def lowerS (s : String) : String := String.ofList (s.toList.map Char.toLower)

/-- `str(os_)` of the unordered classes: `OpenBsd` has no `__str__` (the class name alone), `Generic` prints
    its lower-cased name -/
def unorderedStr (cls rel : String) : String :=
  if cls == "generic" then lowerS rel else if cls == "openbsd" then "openbsd" else s!"{cls}_{rel}"

/-- the single tag of a BSD / Haiku / generic platform -/
def unorderedTag (cls rel : String) (arch : Arch) : String :=
  if cls == "generic" then s!"{lowerS rel}_{arch.str}"
  else s!"{lowerS (unorderedStr cls rel)}_{replaceChars rel}_{arch.str}"

/-- `Platform.compatible_tags` (platform.py:182-276); `none` = `PlatformError` -/
def compatibleTags (p : Platform) : Option (List PTag) :=
  match p.os with
  | .manylinux major minor =>
    let many :=
      match p.arch.minManylinuxMinor with
      | none => []
      | some mn => manylinuxLoop major p.arch (minor + 1 - mn) minor
    some (many ++ [.linux p.arch])
  | .musllinux major minor =>
    some (.linux p.arch :: (List.range minor).map fun i => .musllinux major (i + 1) p.arch)
  | .macos major minor =>
    match p.arch with
    | .x86_64 =>
      if major == 10 then
        some ((rangeDown minor 3).flatMap fun m => p.arch.macFormats.map fun f => .macosx 10 m f)
      else if major ≥ 11 then
        some (((rangeDown major 10).flatMap fun M => p.arch.macFormats.map fun f => .macosx M 0 f) ++
              ((rangeDown 16 3).flatMap fun m => p.arch.macFormats.map fun f => .macosx 10 m f))
      else none
    | .aarch64 =>
      some (((rangeDown major 10).flatMap fun M => p.arch.macFormats.map fun f => .macosx M 0 f) ++
            ((rangeDown 16 3).map fun m => .macosx 10 m "universal2"))
    | _ => none      -- falls to the final `else: raise PlatformError`
  | .windows =>
    match p.arch with
    | .x86 => some [.win "win32"]
    | .x86_64 => some [.win "win_amd64"]
    | .aarch64 => some [.win "win_arm64"]
    | _ => none
  | .unordered cls rel => some [.win (unorderedTag cls rel p.arch)]

/-- `Platform.__str__` -/
def Platform.str (p : Platform) : String :=
  let osStr := match p.os with
    | .manylinux a b => s!"manylinux_{a}_{b}"
    | .musllinux a b => s!"musllinux_{a}_{b}"
    | .windows => "windows"
    | .macos a b => s!"macos_{a}_{b}"
    | .unordered cls rel => unorderedStr cls rel
  match p.os, p.arch with
  | .windows, .x86_64 => "windows_amd64"
  | .macos _ _, .aarch64 => s!"{osStr}_arm64"
  | .windows, .aarch64 => s!"{osStr}_arm64"
  | _, a => s!"{osStr}_{a.str}"

/-! ### EnvSpec -/

inductive ImplName where
  | cpython | pypy | pyston
deriving DecidableEq, Repr

structure Impl where
  name : ImplName
  gilDisabled : Bool := false
deriving DecidableEq, Repr

def Impl.short (i : Impl) : String :=
  match i.name with | .cpython => "cp" | .pypy => "pp" | .pyston => "pt"

structure EnvSpec where
  requiresPython : Spec Ver
  platform : Option Platform := none
  impl : Option Impl := none

def digitsToNat? (s : String) : Option Nat :=
  let l := s.toList
  if l.isEmpty then none
  else if l.all Char.isDigit then some (l.foldl (fun n c => n * 10 + (c.toNat - '0'.toNat)) 0)
  else none

/-- what `_evaluate_python` extracts from the two tag strings -/
structure PyAbi where
  impl : String         -- python_tag[:2]
  major : String        -- python_tag[2:3]
  minor : String        -- python_tag[3:]
  abiImpl : String      -- abi_tag.split("_",1)[0] with pypy→pp, pyston→pt, lower-cased
  pyLower : String      -- python_tag.lower()

def slice (pyTag abiTag : String) : PyAbi :=
  let l := pyTag.toList
  let abi0 := (abiTag.splitOn "_").headD ""
  { impl := String.ofList (l.take 2), major := String.ofList ((l.drop 2).take 1), minor := String.ofList (l.drop 3),
    abiImpl := ((abi0.replace "pypy" "pp").replace "pyston" "pt").toLower,
    pyLower := pyTag.toLower }

/-- `parse_version_specifier(f"{op}{major}.{minor}")` etc.: `none` = InvalidSpecifier -/
def verOf (major minor : String) (minorDefault : Option Nat) : Option (List Nat) :=
  match digitsToNat? major with
  | none => none
  | some M =>
    if minor.isEmpty then (match minorDefault with | some d => some [M, d] | none => some [M])
    else (digitsToNat? minor).map fun m => [M, m]

/-- `parse_version_specifier(f">={major}.{minor or 0}")` of the abi3 branch -/
def abi3Range (t : PyAbi) : Option (Spec Ver) :=
  (verOf t.major t.minor (some 0)).bind fun rel =>
    (fromClause { op := .ge, ver := { release := rel } }).map fun w => (Spec.range {}).and w

/-- the `if major and minor [and impl == "py"] / elif / else` choice of `wheel_range`
    (tags.py:204-212, after the `fix:` for `pyXY`); `none` = InvalidSpecifier -/
def wheelRange (t : PyAbi) : Option (Spec Ver) :=
  if !t.major.isEmpty && !t.minor.isEmpty && t.impl == "py" then
    match verOf t.major t.minor none, digitsToNat? t.major with
    | some rel, some M =>
      (fromClause { op := .ge, ver := { release := rel } }).bind fun a =>
      (fromClause { op := .eq, ver := { release := [M] }, wild := true }).map fun b =>
        ((Spec.range {}).and a).and ((Spec.range {}).and b)
    | _, _ => none
  else if !t.major.isEmpty && !t.minor.isEmpty then
    (verOf t.major t.minor none).bind fun rel =>
      (fromClause { op := .eq, ver := { release := rel }, wild := true }).map fun a => (Spec.range {}).and a
  else
    (digitsToNat? t.major).bind fun M =>
      (fromClause { op := .eq, ver := { release := [M] }, wild := true }).map fun a => (Spec.range {}).and a

/-- `(int(major), int(minor or 0), k)` -/
def pyScore (t : PyAbi) (k : Nat) : Nat × Nat × Nat :=
  ((digitsToNat? t.major).getD 0, (digitsToNat? t.minor).getD 0, k)

/-- the characters of the ABI tag after the python tag (`abi_impl[len(python_tag):]`) -/
def abiFlags (t : PyAbi) : List Char := t.abiImpl.toList.drop t.pyLower.toList.length

/-- a concrete ABI tag fits the python tag (after the `fix:` for D28): it is the python tag followed by ABI
    flags only — what follows must not start with a digit (cp31 is not cp310) — and `t` among the flags says
    free-threaded -/
def abiGate (impl : Option Impl) (t : PyAbi) : Bool :=
  t.pyLower.toList.isPrefixOf t.abiImpl.toList &&
  !(match (abiFlags t).head? with | some c => c.isDigit | none => false) &&
  (match impl with | some i => ((abiFlags t).contains 't') == i.gilDisabled | none => true)

/-- the body of `_evaluate_python` after slicing (tags.py:157-217) -/
def evalPyCore (rp : Spec Ver) (impl : Option Impl) (t : PyAbi) : Option (Nat × Nat × Nat) :=
  if (match impl with | some i => !(t.impl == i.short || t.impl == "py") | none => false) then none
  else if t.abiImpl == "abi3" then
    if !(t.impl == "cp" && (match impl with | none => true | some i => !i.gilDisabled)) then none
    else
      match abi3Range t with
      | none => none
      | some w => if (w.and rp).isEmpty then none else some (pyScore t 1)
  else if t.abiImpl != "none" && !abiGate impl t then none
  else
    match wheelRange t with
    | none => none
    | some w => if (w.and rp).isEmpty then none else some (pyScore t (if t.abiImpl == "none" then 0 else 2))

def evaluatePython (e : EnvSpec) (pyTag abiTag : String) : Option (Nat × Nat × Nat) :=
  evalPyCore e.requiresPython e.impl (slice pyTag abiTag)

/-- `_evaluate_platform`; `none` = `PlatformError`, `some none` = `None`, `some (some k)` = the score `k`
    (`-1` when no platform is set) -/
def evaluatePlatform (e : EnvSpec) (tag : String) : Option (Option Int) :=
  match e.platform with
  | none => some (some (-1))
  | some p =>
    match compatibleTags p with
    | none => none           -- PlatformError propagates
    | some tags =>
      let strs := tags.map PTag.str ++ ["any"]
      match strs.findIdx? (· == tag) with
      | none => some none
      | some i => some (some ((strs.length : Int) - i))

/-- lexicographic max of python scores, as Python's tuple `max` -/
def maxScore (l : List (Nat × Nat × Nat)) : Option (Nat × Nat × Nat) :=
  l.foldl (fun acc x =>
    match acc with
    | none => some x
    | some a =>
      if a.1 < x.1 || (a.1 == x.1 && (a.2.1 < x.2.1 || (a.2.1 == x.2.1 && a.2.2 < x.2.2))) then some x else some a)
    none

inductive Compat where
  | error                                   -- PlatformError
  | none
  | score (py : Nat × Nat × Nat) (plat : Int)
deriving Repr, DecidableEq

/-- `EnvSpec.compatibility` (tags.py:227-252).  `filter(None, …)` also drops a platform score `0`
    – impossible, scores are ≥ 1 or -1. -/
def compatibility (e : EnvSpec) (py abi plat : List String) : Compat :=
  let combos := py.flatMap fun p => abi.map fun a => (p, a)
  match maxScore (combos.filterMap fun pa => evaluatePython e pa.1 pa.2) with
  | none => .none
  | some ps =>
    let pls := plat.map (evaluatePlatform e)
    if pls.any Option.isNone then .error
    else
      match (pls.filterMap id).filterMap id |>.foldl (fun acc x => match acc with | none => some x | some a => some (max a x)) none with
      | none => .none
      | some s => .score ps s

/-! ### `EnvSpec.compare` -/

inductive EnvCompat where
  | incompatible | lowerOrEqual | higher
deriving DecidableEq, Repr

/-- `type(self.platform.os) is type(target.platform.os)` -/
def Os.sameClass : Os → Os → Bool
  | .manylinux _ _, .manylinux _ _ => true
  | .musllinux _ _, .musllinux _ _ => true
  | .windows, .windows => true
  | .macos _ _, .macos _ _ => true
  | .unordered c _, .unordered d _ => c == d
  | _, _ => false

def Os.majorMinor? : Os → Option (Nat × Nat)
  | .manylinux a b | .musllinux a b | .macos a b => some (a, b)
  | .windows | .unordered _ _ => none

/-- dataclass `__eq__` of `EnvSpec` -/
def EnvSpec.beq (a b : EnvSpec) : Bool :=
  a.requiresPython.beq b.requiresPython && decide (a.platform = b.platform) && decide (a.impl = b.impl)

/-- both implementations stated and different -/
def implClash (a b : Option Impl) : Bool :=
  match a, b with
  | some x, some y => decide (x ≠ y)
  | _, _ => false

/-- the platform part of `compare` (arch, OS class, `(major, minor)` order) -/
def platCompare (p q : Platform) : EnvCompat :=
  if p.arch != q.arch then .incompatible
  else if !p.os.sameClass q.os then .incompatible
  else
    match p.os.majorMinor?, q.os.majorMinor? with
    | some (a1, a2), some (b1, b2) =>
      if a1 < b1 || (a1 == b1 && a2 ≤ b2) then .lowerOrEqual else .higher
    | _, _ => if p.os = q.os then .lowerOrEqual else .incompatible   -- releases that cannot be ordered

/-- `EnvSpec.compare` (tags.py:285-314) -/
def compare (a b : EnvSpec) : EnvCompat :=
  if a.beq b then .lowerOrEqual
  else if (a.requiresPython.and b.requiresPython).isEmpty then .incompatible
  else if implClash a.impl b.impl then .incompatible
  else
    match a.platform, b.platform with
    | some p, some q => platCompare p q
    | _, _ => .lowerOrEqual

/-! ### `Platform.parse` -/

inductive PlatErr where
  | valueError        -- `Arch.parse` / tuple unpacking `ValueError` escapes
  | typeError         -- `Illumos(release)`: the dataclass needs two arguments
  | platformError     -- a generic name with an unknown architecture
deriving DecidableEq, Repr

/-- leading digits, then `_` -/
def digitsThenUnderscore (s : List Char) : Option (Nat × List Char) :=
  let (d, r) := s.span Char.isDigit
  match r with
  | '_' :: rest => if d.isEmpty then none else some (d.foldl (fun n c => n * 10 + (c.toNat - '0'.toNat)) 0, rest)
  | _ => none

def archChars (s : List Char) : Bool :=
  !s.isEmpty && s.all fun c => c.isLower || c.isDigit || c == '_'

def parseArch (s : List Char) : Except PlatErr Arch :=
  match Arch.parse? (String.ofList s) with
  | some a => .ok a
  | none => .error .valueError

/-- the `_platform_major_minor_re` branch -/
def parseMajorMinor (mk : Nat → Nat → Os) (rest : List Char) : Option (Except PlatErr Platform) :=
  match digitsThenUnderscore rest with
  | none => none
  | some (major, r1) =>
    match digitsThenUnderscore r1 with
    | none => none
    | some (minor, r2) =>
      if archChars r2 then some ((parseArch r2).map fun a => ⟨mk major minor, a⟩) else none

def dropPrefix? (pre s : List Char) : Option (List Char) :=
  if pre.isPrefixOf s then some (s.drop pre.length) else none

/-- the `_platform_major_minor_re` families -/
def familyRe (l : List Char) : Option (Except PlatErr Platform) :=
  match dropPrefix? "manylinux_".toList l with
  | some r => parseMajorMinor .manylinux r
  | none =>
    match dropPrefix? "macos_".toList l with
    | some r => parseMajorMinor .macos r
    | none =>
      match dropPrefix? "musllinux_".toList l with
      | some r => parseMajorMinor .musllinux r
      | none => none

/-- the final `else` of `Platform.parse`: BSD families by name, anything else a `Generic` OS -/
def parseOther (l : List Char) : Except PlatErr Platform :=
  let (os, r) := l.span (· != '_')
  match r with
  | '_' :: rest =>
    let osS := String.ofList os
    if osS == "illumos" then .error .typeError
    else if osS == "freebsd" || osS == "netbsd" || osS == "openbsd" || osS == "dragonfly" || osS == "haiku" then
      let (rel, r2) := rest.span (· != '_')
      match Arch.parse? (String.ofList (r2.drop 1)) with
      | some a => .ok ⟨.unordered osS (String.ofList rel), a⟩
      | none => .error .valueError
    else
      match Arch.parse? (String.ofList rest) with
      | some a => .ok ⟨.unordered "generic" osS, a⟩
      | none => .error .platformError
  | _ => .error .valueError       -- `os_, arch = platform.split("_", 1)` cannot unpack

/-- `Platform.parse` (platform.py:41-92) -/
def parsePlatform (s : String) : Except PlatErr Platform :=
  if s == "linux" then .ok ⟨.manylinux 2 17, .x86_64⟩
  else if s == "windows" then .ok ⟨.windows, .x86_64⟩
  else if s == "macos" then .ok ⟨.macos 14 0, .aarch64⟩
  else if s == "alpine" then .ok ⟨.musllinux 1 2, .x86_64⟩
  else
    let l := s.toList
    match dropPrefix? "windows_".toList l with
    | some rest => (parseArch rest).map fun a => ⟨.windows, a⟩
    | none =>
      if s == "macos_arm64" then .ok ⟨.macos 14 0, .aarch64⟩
      else if s == "macos_x86_64" then .ok ⟨.macos 14 0, .x86_64⟩
      else
        match familyRe l with
        | some r => r
        | none => parseOther l

/-! ### wheel file names -/

def splitC (c : Char) : List Char → List (List Char)
  | [] => [[]]
  | x :: xs =>
    if x == c then [] :: splitC c xs
    else
      match splitC c xs with
      | [] => [[x]]
      | h :: t => (x :: h) :: t

inductive WheelErr where
  | badExtension | badPartCount
deriving Repr, DecidableEq

/-- `parse_wheel_tags` (tags.py:18-36) on characters -/
def parseWheelTags (name : List Char) : Except WheelErr (List (List Char) × List (List Char) × List (List Char)) :=
  let ext := ".whl".toList
  if name.length < 4 || name.drop (name.length - 4) != ext then .error .badExtension
  else
    let body := name.take (name.length - 4)
    let dashes := body.count '-'
    if dashes != 4 && dashes != 5 then .error .badPartCount
    else
      let parts := splitC '-' body
      match parts.reverse with
      -- the `fix:` for D31: tags are lower-cased, as packaging.tags.Tag does (ASCII: tags are alphanumeric)
      | plat :: abi :: py :: _ =>
        .ok (splitC '.' (py.map Char.toLower), splitC '.' (abi.map Char.toLower), splitC '.' (plat.map Char.toLower))
      | _ => .error .badPartCount

end DepLogic
