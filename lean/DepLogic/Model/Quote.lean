/-
  Marker string literals: how dep-logic writes one (`_quote`, markers/single.py) and how packaging reads one
  (tokenizer regex `('[^']*')|("[^"]*")`, then `ast.literal_eval` of the token as Python source).
  Character lists throughout, so that the round trip can be proved (`C07.quote_roundtrip`).
-/
namespace DepLogic
namespace Quote

def nul : Char := Char.ofNat 0

/-- what `_quote` writes for one character; `dq`: the literal is written in double quotes -/
def escChar (dq : Bool) (c : Char) : List Char :=
  if c = '\\' then ['\\', '\\']
  else if c = '\n' then ['\\', 'n']
  else if c = '\r' then ['\\', 'r']
  else if c = nul then ['\\', 'u', '0', '0', '0', '0']     -- the `fix:` for D36 (a Lean `Char` is never a surrogate)
  else if dq && c = '"' then ['\\', 'x', '2', '2']
  else [c]

/-- `_quote(value)`: single quotes around a value that contains a double quote and no single quote,
    double quotes (and `\x22`) otherwise -/
def quoteL (v : List Char) : List Char :=
  if v.contains '"' && !v.contains '\'' then '\'' :: v.flatMap (escChar false) ++ ['\'']
  else '"' :: v.flatMap (escChar true) ++ ['"']

def hexVal? (c : Char) : Option Nat :=
  if '0' ≤ c ∧ c ≤ '9' then some (c.toNat - 48)
  else if 'a' ≤ c ∧ c ≤ 'f' then some (c.toNat - 87)
  else if 'A' ≤ c ∧ c ≤ 'F' then some (c.toNat - 55)
  else none

def consO (c : Char) (r : Option (List Char)) : Option (List Char) := r.map (c :: ·)

/-- reader state: plain text, just after a backslash, or inside `\\xHH` / `\\uHHHH` with `left` digits to go -/
inductive St where
  | normal
  | esc
  | hex (left acc : Nat)
deriving DecidableEq, Repr

/-- one character of the body of a Python string literal delimited by `q` (not raw, not triple-quoted): the next
    state and the character produced, if any.  `none`: SyntaxError / ValueError (a raw line break, a raw NUL, the
    delimiter, bad hex digits), a lone surrogate (not a Lean `Char`), or an escape this model does not cover (octal,
    `\\N{..}`, `\\U`, `\\a \\b \\f \\v`, backslash-newline, and the unknown escapes Python keeps verbatim with a
    warning) -/
def step (q : Char) : St → Char → Option (St × Option Char)
  | .normal, c =>
    if c = '\\' then some (.esc, none)
    else if c = q || c = '\n' || c = '\r' || c = nul then none
    else some (.normal, some c)
  | .esc, e =>
    if e = '\\' then some (.normal, some '\\')
    else if e = 'n' then some (.normal, some '\n')
    else if e = 'r' then some (.normal, some '\r')
    else if e = 't' then some (.normal, some '\t')
    else if e = '\'' then some (.normal, some '\'')
    else if e = '"' then some (.normal, some '"')
    else if e = 'x' then some (.hex 2 0, none)
    else if e = 'u' then some (.hex 4 0, none)
    else none
  | .hex left acc, c =>
    match hexVal? c with
    | none => none
    | some d =>
      let n := 16 * acc + d
      if left ≤ 1 then
        (if 0xD800 ≤ n ∧ n ≤ 0xDFFF then none else some (.normal, some (Char.ofNat n)))
      else some (.hex (left - 1) n, none)

/-- the body of the literal -> its value; a dangling backslash or unfinished escape is an error -/
def run (q : Char) : St → List Char → Option (List Char)
  | st, [] => if st = .normal then some [] else none
  | st, c :: r =>
    match step q st c with
    | none => none
    | some (st', some o) => consO o (run q st' r)
    | some (st', none) => run q st' r

def pyUnescape (q : Char) (body : List Char) : Option (List Char) := run q .normal body

/-- packaging's QUOTED_STRING token at the head of `s`: (delimiter, body, what follows the token) -/
def scanQuoted (s : List Char) : Option (Char × List Char × List Char) :=
  match s with
  | q :: r =>
    if q = '"' || q = '\'' then
      match r.dropWhile (· != q) with
      | _ :: rest => some (q, r.takeWhile (· != q), rest)
      | [] => none
    else none
  | [] => none

/-- the value packaging reads from the literal at the head of `s`, and the rest of the text -/
def readLiteral (s : List Char) : Option (List Char × List Char) :=
  match scanQuoted s with
  | some (q, body, rest) => (pyUnescape q body).map fun v => (v, rest)
  | none => none

end Quote
end DepLogic
