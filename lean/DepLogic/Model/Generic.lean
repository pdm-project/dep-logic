/-
  Model of `src/dep_logic/specifiers/generic.py` (`GenericSpecifier`): string-valued
  marker atoms viewed as specifiers, and of `EmptySpecifier/AnySpecifier.__contains__`
  (special.py) as asked by the marker layer.
-/
namespace DepLogic

/-- Python `a in b` on `str`: substring. -/
def isInfixL : List Char → List Char → Bool
  | a, [] => a.isEmpty
  | a, b@(_ :: t) => a.isPrefixOf b || isInfixL a t

def strIn (a b : String) : Bool := isInfixL a.toList b.toList

inductive GOp where
  | eq | ne | in_ | notIn | gt | ge | lt | le | contains | notContains
deriving DecidableEq, Repr

namespace GOp
/-- `op_order.get(op, len(op_order))` -/
def order : GOp → Nat
  | .eq => 0 | .ne => 1 | .in_ => 2 | .notIn => 3 | _ => 4

def str : GOp → String
  | .eq => "==" | .ne => "!=" | .in_ => "in" | .notIn => "not in"
  | .gt => ">" | .ge => ">=" | .lt => "<" | .le => "<="
  | .contains => "contains" | .notContains => "not contains"

def ofString? : String → Option GOp
  | "==" => some .eq | "!=" => some .ne | "in" => some .in_ | "not in" => some .notIn
  | ">" => some .gt | ">=" => some .ge | "<" => some .lt | "<=" => some .le
  | "contains" => some .contains | "not contains" => some .notContains
  | _ => none

/-- `invert_map` -/
def invert : GOp → GOp
  | .eq => .ne | .ne => .eq | .notIn => .in_ | .in_ => .notIn
  | .lt => .ge | .le => .gt | .gt => .le | .ge => .lt
  | .contains => .notContains | .notContains => .contains
end GOp

structure GSpec where
  op : GOp
  value : String
deriving DecidableEq, Repr

/-- what `GenericSpecifier.__and__/__or__` can return -/
inductive GRes where
  | empty | any | spec (g : GSpec)
deriving DecidableEq, Repr

namespace GSpec

/-- `__contains__`: `_op_map[self.op](value, self.value)`; parametrised by the substring
    test so that the theorems visibly do not depend on what `in` means. -/
def containsWith (sub : String → String → Bool) (g : GSpec) (s : String) : Bool :=
  match g.op with
  | .eq => s == g.value
  | .ne => s != g.value
  | .in_ => sub s g.value
  | .notIn => !sub s g.value
  | .gt => decide (g.value < s)
  | .ge => decide (¬ s < g.value)
  | .lt => decide (s < g.value)
  | .le => decide (¬ g.value < s)
  | .contains => sub g.value s          -- the reversed atom `"literal" in variable`
  | .notContains => !sub g.value s

def contains (g : GSpec) (s : String) : Bool := containsWith strIn g s

def invert (g : GSpec) : GSpec := { op := g.op.invert, value := g.value }

/-- `sorted((self, other), key=...)` (stable) -/
def sort2 (a b : GSpec) : GSpec × GSpec :=
  if b.op.order < a.op.order then (b, a) else (a, b)

/-- `__and__` (generic.py:56-80); `none` = `raise NotImplementedError` -/
def andWith (sub : String → String → Bool) (self other : GSpec) : Option GRes :=
  if self = other then some (.spec self)
  else
    let (this, that) := sort2 self other
    match this.op, that.op with
    | .eq, .eq => some .empty
    | .eq, .ne => if this.value = that.value then some .empty else some (.spec this)
    | .in_, .notIn => if this.value = that.value then some .empty else none
    | .eq, .in_ => if sub this.value that.value then some (.spec this) else some .empty
    | .ne, .notIn => if sub this.value that.value then some (.spec that) else none
    | _, _ => none

/-- `__or__` (generic.py:82-107) -/
def orWith (sub : String → String → Bool) (self other : GSpec) : Option GRes :=
  if self = other then some (.spec self)
  else
    let (this, that) := sort2 self other
    match this.op, that.op with
    | .eq, .ne => if this.value = that.value then some .any else some (.spec that)
    | .ne, .ne => some .any
    | .in_, .notIn => if this.value = that.value then some .any else none
    | .ne, .in_ => if sub this.value that.value then some .any else none
    | .ne, .notIn => if sub this.value that.value then some (.spec this) else some .any
    | .eq, .in_ => if sub this.value that.value then some (.spec that) else none
    | _, _ => none

def and := andWith strIn
def or := orWith strIn

end GSpec

namespace GRes
/-- membership in a result: `EmptySpecifier.__contains__` / `AnySpecifier.__contains__`
    (special.py, after the `fix:` that un-swapped them) / `GenericSpecifier.__contains__` -/
def containsWith (sub : String → String → Bool) : GRes → String → Bool
  | .empty, _ => false
  | .any, _ => true
  | .spec g, s => g.containsWith sub s

def contains := containsWith strIn
end GRes

end DepLogic
