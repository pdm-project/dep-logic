import DepLogic.Model.Marker
/-
  Marker text: packaging's `_parse_marker_item`, `_parse_marker_atom`, `_parse_marker` and
  `_parse_full_marker` (`_parser.py`) over its tokenizer rules (`_tokenizer.py`: VARIABLE, QUOTED_STRING,
  OP, IN, NOT, BOOLOP, WS), on character lists.
-/
namespace DepLogic
namespace MText
open Quote M

/-- the environment-variable names of the VARIABLE rule -/
def varNames : List (List Char) :=
  ["python_version".toList, "python_full_version".toList, "os_name".toList, "sys_platform".toList,
   "platform_release".toList, "platform_system".toList, "platform_version".toList, "platform_machine".toList,
   "platform_python_implementation".toList, "implementation_name".toList,
   "implementation_version".toList, "extra".toList, "extras".toList, "dependency_groups".toList]

/-- the deprecated spellings the VARIABLE rule also matches (`os[._]name`, ...) and `process_env_var`'s alias -/
def aliases : List (List Char × List Char) :=
  [("os.name".toList, "os_name".toList), ("sys.platform".toList, "sys_platform".toList),
   ("platform.version".toList, "platform_version".toList), ("platform.machine".toList, "platform_machine".toList),
   ("platform.python_implementation".toList, "platform_python_implementation".toList),
   ("python_implementation".toList, "platform_python_implementation".toList)]

/-- `\w`, ASCII only -/
def isWord (c : Char) : Bool := c.isAlphanum || c == '_'

def isWs (c : Char) : Bool := c == ' ' || c == '\t'

/-- `tokenizer.consume("WS")` -/
def skipWs (s : List Char) : List Char := s.dropWhile isWs

def isVarChar (c : Char) : Bool := isWord c || c == '.'

/-- `_parse_marker_var`: a VARIABLE (maximal run of word characters and dots, which must be one of the names or one
    of the deprecated spellings) or a QUOTED_STRING.  Result: (is a variable, text, rest).
    The VARIABLE rule is a regular expression with `\b` anchors; reading a maximal run is the same on every text in
    which the name is followed by a character that is neither a word character nor a dot. -/
def readVar (s : List Char) : Option (Bool × List Char × List Char) :=
  match s with
  | [] => none
  | c :: _ =>
    if c = '"' || c = '\'' then (readLiteral s).map fun vr => (false, vr.1, vr.2)
    else
      let raw := s.takeWhile isVarChar
      let name := (aliases.lookup raw).getD raw
      if varNames.contains name then some (true, name, s.dropWhile isVarChar) else none

/-- `_parse_marker_op`: IN, NOT WS IN, or OP `(===|==|~=|!=|<=|>=|<|>)` (first alternative that matches) -/
def readOp (s : List Char) : Option (List Char × List Char) :=
  match s with
  | 'i' :: 'n' :: r => if (r.head?.map isWord).getD false then none else some (['i', 'n'], r)
  | 'n' :: 'o' :: 't' :: r =>
    if (r.head?.map isWord).getD false then none
    else
      match skipWs r with
      | 'i' :: 'n' :: r2 =>
        if r.head?.map isWs != some true then none          -- `expect("WS")`
        else if (r2.head?.map isWord).getD false then none else some ("not in".toList, r2)
      | _ => none
  | '=' :: '=' :: '=' :: r => some (['=', '=', '='], r)
  | '=' :: '=' :: r => some (['=', '='], r)
  | '~' :: '=' :: r => some (['~', '='], r)
  | '!' :: '=' :: r => some (['!', '='], r)
  | '<' :: '=' :: r => some (['<', '='], r)
  | '>' :: '=' :: r => some (['>', '='], r)
  | '<' :: r => some (['<'], r)
  | '>' :: r => some (['>'], r)
  | _ => none

/-- `_parse_marker_item`: `WS? var WS? op WS? var WS?` -> packaging's `(lhs, op, rhs)` and the rest -/
def readAtom (s : List Char) : Option (PItem × List Char) :=
  match readVar (skipWs s) with
  | none => none
  | some (lv, l, r1) =>
    match readOp (skipWs r1) with
    | none => none
    | some (op, r2) =>
      match readVar (skipWs r2) with
      | none => none
      | some (_, r, r3) => some (.atom lv (String.ofList l) (String.ofList op) (String.ofList r), skipWs r3)

/-- BOOLOP: `\\b(or|and)\\b` at the current position -/
def readBoolOp (s : List Char) : Option (PItem × List Char) :=
  match s with
  | 'a' :: 'n' :: 'd' :: r => if (r.head?.map isWord).getD false then none else some (.and_, r)
  | 'o' :: 'r' :: r => if (r.head?.map isWord).getD false then none else some (.or_, r)
  | _ => none

mutual
/-- `_parse_marker`: `marker_atom (BOOLOP marker_atom)*`, a FLAT list (precedence is applied later, by
    `_build_markers`); fuel bounds the recursion (every call consumes a character) -/
def readMarker : Nat → List Char → Option (List PItem × List Char)
  | 0, _ => none
  | f + 1, s =>
    match readMAtom f s with
    | none => none
    | some (it, r) => readMore f [it] r
/-- the `while tokenizer.check("BOOLOP")` loop; `acc` is reversed -/
def readMore : Nat → List PItem → List Char → Option (List PItem × List Char)
  | 0, _, _ => none
  | f + 1, acc, s =>
    match readBoolOp s with
    | none => some (acc.reverse, s)
    | some (op, r) =>
      match readMAtom f r with
      | none => none
      | some (it, r2) => readMore f (it :: op :: acc) r2
/-- `_parse_marker_atom`: `WS? ( WS? marker WS? ) WS?` or `WS? marker_item WS?` -/
def readMAtom : Nat → List Char → Option (PItem × List Char)
  | 0, _ => none
  | f + 1, s =>
    match skipWs s with
    | '(' :: r =>
      match readMarker f (skipWs r) with
      | none => none
      | some (its, r2) =>
        match skipWs r2 with
        | ')' :: r3 => some (.group its, skipWs r3)
        | _ => none
    | s' => readAtom s'
end

/-- `_parse_full_marker`: the whole text -/
def readFullMarker (s : List Char) : Option (List PItem) :=
  match readMarker (2 * s.length + 2) s with
  | some (its, []) => some its
  | _ => none

/-- `Atom.__str__` on characters -/
def atomStrL (a : Atom) : List Char :=
  if a.reversed then quoteL a.value.toList ++ ' ' :: a.op.reflect.str.toList ++ ' ' :: a.name.toList
  else a.name.toList ++ ' ' :: a.op.str.toList ++ ' ' :: quoteL a.value.toList

end MText
end DepLogic
