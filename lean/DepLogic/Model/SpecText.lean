import DepLogic.Model.Version
import DepLogic.Model.Spec
/-
  Text layer of version specifiers at *token* level:
  * `fromClause`        — `_from_pkg_specifier` (specifiers/__init__.py), after the `fix:` that computes
                           wildcard / compatible-release bounds from the parsed `Version`
  * `fromSpecifierSet`  — `from_specifierset` (fold of `&` from `RangeSpecifier()`, written order)
  * `parseAlts`         — `parse_version_specifier` (`<empty>`, `||`, `SpecifierSet`)
  * `Range.strClauses`, `unionSimplified`, `Spec.str` — `_simplified_form` / `__str__` of
                           range.py:41-84 and union.py:30-82
  Splitting a string into clauses and a clause into (operator, version, `.*`) is packaging's
  parser: modelled in `Model/SpecParse.lean` for canonical spellings, not verified.
-/
namespace DepLogic
open LinPre

namespace Ver

/-- `_release_version(epoch, release)`: `Version(f"{epoch}!{release}.0")` -/
def releaseVersion (epoch : Nat) (rel : List Nat) : Ver := { epoch := epoch, release := rel ++ [0] }

/-- `_next_series(version, length)`; `none` = `IndexError` on an empty slice (unreachable:
    packaging rejects `~=N`) -/
def nextSeries (v : Ver) (len : Nat) : Option Ver :=
  match (v.release.take len).reverse with
  | [] => none
  | last :: init => some (releaseVersion v.epoch (init.reverse ++ [last + 1]))

end Ver

/-- `_from_pkg_specifier` -/
def fromClause (c : Clause Ver) : Option (Spec Ver) :=
  match c.op, c.wild with
  | .gt, _ => some (.range { min := some c.ver, incMin := false, text := some c })
  | .ge, _ => some (.range { min := some c.ver, incMin := true, text := some c })
  | .lt, _ => some (.range { max := some c.ver, incMax := false, text := some c })
  | .le, _ => some (.range { max := some c.ver, incMax := true, text := some c })
  | .eq, false => some (.range { min := some c.ver, max := some c.ver, incMin := true, incMax := true, text := some c })
  | .eq, true =>
    (c.ver.nextSeries c.ver.release.length).map fun mx =>
      .range { min := some (Ver.releaseVersion c.ver.epoch c.ver.release), max := some mx,
               incMin := true, incMax := false, text := some c }
  | .compat, _ =>
    (c.ver.nextSeries (c.ver.release.length - 1)).map fun mx =>
      .range { min := some c.ver, max := some mx, incMin := true, incMax := false, text := some c }
  | .ne, false =>
    some (.union [{ max := some c.ver, incMax := false }, { min := some c.ver, incMin := false }] (some c))
  | .ne, true =>
    (c.ver.nextSeries c.ver.release.length).map fun right =>
      .union [{ max := some (Ver.releaseVersion c.ver.epoch c.ver.release), incMax := false },
              { min := some right, incMin := true }] (some c)

/-- `from_specifierset`: `functools.reduce(operator.and_, map(_from_pkg_specifier, spec), RangeSpecifier())` -/
def fromSpecifierSet (cs : List (Clause Ver)) : Option (Spec Ver) :=
  cs.foldl (fun acc c => acc.bind fun a => (fromClause c).map fun s => a.and s) (some (.range {}))

/-- one `||` alternative of a specifier string -/
inductive Alt where
  | empty                             -- the text `<empty>`
  | clauses (cs : List (Clause Ver))  -- a comma separated specifier set (possibly no clause: "")
deriving Repr, DecidableEq

def parseAlt : Alt → Option (Spec Ver)
  | .empty => some .empty
  | .clauses cs => fromSpecifierSet cs

/-- `parse_version_specifier`: `functools.reduce(operator.or_, map(parse_version_specifier, spec.split("||")))` -/
def parseAlts : List Alt → Option (Spec Ver)
  | [] => none
  | a :: rest =>
    rest.foldl (fun acc x => acc.bind fun s => (parseAlt x).bind fun t => s.or t) (parseAlt a)

/-! ### rendering -/

/-- `first_different_index` (utils.py:66-73) -/
def firstDifferentIndex : List Nat → List Nat → Nat
  | a :: as, b :: bs => if a != b then 0 else
      match as, bs with
      | [], _ => 1
      | _, [] => 1
      | _, _ => firstDifferentIndex as bs + 1
  | _, _ => 1

/-- `pad_zeros` -/
def padZeros (l : List Nat) (n : Nat) : List Nat := l ++ List.replicate (n - l.length) 0

def twoClauses (r : Range Ver) (mn mx : Ver) : List (Clause Ver) :=
  [{ op := if r.incMin then .ge else .gt, ver := mn }, { op := if r.incMax then .le else .lt, ver := mx }]

/-- the `~=` detection of `RangeSpecifier._simplified_form` (range.py:59-78), for an
    inclusive-exclusive range with distinct bounds -/
def compatForm (mn mx : Ver) : Bool :=
  let minS := mn.epoch :: mn.release
  let maxS := mx.epoch :: mx.release
  let L := Nat.max minS.length maxS.length
  let minS := padZeros minS L
  let maxS := padZeros maxS L
  let fd := firstDifferentIndex minS maxS
  if fd ≥ L - 1 || fd == 0 then false
  else if maxS.getD fd 0 != minS.getD fd 0 + 1 then false
  else (maxS.drop (fd + 1)).all (· == 0) && !mx.isPrerelease && mn.release.length == fd + 1

/-- `RangeSpecifier.__str__` as a comma separated clause list (range.py:41-84) -/
def Range.strClauses (r : Range Ver) : List (Clause Ver) :=
  match r.text with
  | some c => [c]
  | none =>
    match r.min, r.max with
    | none, none => []
    | none, some mx => [{ op := if r.incMax then .le else .lt, ver := mx }]
    | some mn, none => [{ op := if r.incMin then .ge else .gt, ver := mn }]
    | some mn, some mx =>
      if eqv mn mx then [{ op := .eq, ver := mn }]
      else if !r.incMin || r.incMax then twoClauses r mn mx
      else if compatForm mn mx then [{ op := .compat, ver := mn }]
      else twoClauses r mn mx

/-- `RangeSpecifier.is_simple()`: `_simplified_form is not None` -/
def Range.isSimple (r : Range Ver) : Bool := r.strClauses.length ≤ 1

/-- the `!=X.*` detection of `UnionSpecifier._simplified_form` for `(-inf, lm) ∪ [rm, +inf)`:
    the version `X` if the form applies -/
def wildForm (lm rm : Ver) : Option Ver :=
  let ls := lm.epoch :: lm.release
  let rs' := rm.epoch :: rm.release
  let L := Nat.max ls.length rs'.length
  let ls := padZeros ls L
  let rs' := padZeros rs' L
  let fd := firstDifferentIndex ls rs'
  if 0 < fd && fd < L && rs'.getD fd 0 == ls.getD fd 0 + 1 &&
     ((ls.drop (fd + 1)) ++ (rs'.drop (fd + 1))).all (· == 0) &&
     !((ls.drop (fd + 1)) ++ (rs'.drop (fd + 1))).isEmpty
  then some { epoch := lm.epoch, release := (ls.drop 1).take fd }
  else none

/-- `UnionSpecifier._simplified_form` (union.py:30-82, after the `fix:`) -/
def unionSimplified (rs : List (Range Ver)) (text : Option (Clause Ver)) : Option (Clause Ver) :=
  match text with
  | some c => some c
  | none =>
    match rs with
    | [left, right] =>
      match left.min, right.max, left.max, right.min with
      | none, none, some lm, some rm =>
        if eqv lm rm then some { op := .ne, ver := lm }
        else if !left.incMax && right.incMin then
          if lm.isPrerelease || rm.isPrerelease || lm.isPostrelease || rm.isPostrelease then none
          else (wildForm lm rm).map fun p => { op := .ne, ver := p, wild := true }
        else none
      | _, _, _, _ => none
    | _ => none

/-- rendered text of a specifier, structured -/
inductive SText where
  | empty                                    -- `<empty>`
  | alts (as : List (List (Clause Ver)))     -- `||`-joined comma lists
deriving Repr

/-- `__str__` of every specifier class -/
def Spec.str : Spec Ver → SText
  | .empty => .empty
  | .any => .alts [[]]
  | .range r => .alts [r.strClauses]
  | .union rs t =>
    match unionSimplified rs t with
    | some c => .alts [[c]]
    | none => .alts (rs.map Range.strClauses)

def SText.toAlts : SText → List Alt
  | .empty => [.empty]
  | .alts as => as.map .clauses

/-- `is_simple()` of a version specifier -/
def Spec.isSimple : Spec Ver → Bool
  | .range r => r.isSimple
  | .union rs t => (unionSimplified rs t).isSome
  | _ => false

end DepLogic
