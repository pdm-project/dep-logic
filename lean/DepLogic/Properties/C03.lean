import DepLogic.Properties.C02
import DepLogic.Proofs.BuildLoop
/-
  C03 — marker evaluation agrees with the PEP 508 reference.

  What is proved here: `build_sound` — the tree that `parse_marker` builds (operand reflection
  for literal-on-the-left atoms, `and` folded through `&`, `or` groups through `MarkerUnion.of`,
  i.e. through ALL the parse-time rewriting and merging) is satisfied exactly when the reference
  evaluation of the parsed marker list (`packaging.markers._evaluate_markers`: `any(all(group))`
  over the `or`-separated groups, nested lists recursively) is — for every parsed list, every
  fuel and every environment, given atoms of the well-defined classes.

  What is NOT proved (decided differentially on every run, stream `C03.eval`): that one atom
  evaluates as packaging evaluates it (`Atom.eval` here vs `packaging.markers._eval_op`), and
  the text -> list parser itself (packaging's, shared by both sides).
-/
namespace DepLogic
namespace C03
open M

/-- one step of `_evaluate_markers`' loop over the list: `groups` (head = `groups[-1]`) -/
def refStep (f : PItem → Bool) (gs : List Bool) (it : PItem) : List Bool :=
  match it, gs with
  | .or_, gs => true :: gs
  | .and_, gs => gs
  | it, g :: gs => (g && f it) :: gs
  | _, [] => []

/-- reference: `_evaluate_markers` with the atoms evaluated as the model's atoms evaluate
    (an atom that raises counts as false, as in `sem`) -/
def refSem (env : Env) : Nat → PItem → Bool
  | 0, _ => false
  | fuel + 1, item =>
    match item with
    | .atom v l o r => match atomOf v l o r with | some a => sem env (.expr a) | none => false
    | .group items => (items.foldl (refStep (refSem env fuel)) [true]).any id
    | _ => false

/-- every atom in the parsed list is of the well-defined classes -/
def PGood (env : Env) : Nat → PItem → Prop
  | 0, _ => True
  | fuel + 1, .atom v l o r => ∀ a, atomOf v l o r = some a → GoodAtom env a
  | fuel + 1, .group items => ∀ it ∈ items, PGood env fuel it
  | _ + 1, _ => True

section
variable (env : Env) (k : Nat) {v : Bool} {l o r : String} {a : Atom} (h : atomOf v l o r = some a)
include h

theorem refSem_atom : refSem env (k + 1) (.atom v l o r) = sem env (.expr a) := by
  simp only [refSem, h]

theorem pgood_atom : PGood env (k + 1) (.atom v l o r) ↔ GoodAtom env a := by
  simp only [PGood, h, Option.some.injEq, forall_eq']

end

theorem refStep_operand {it : PItem} (hop : it ≠ .and_ ∧ it ≠ .or_) (f : PItem → Bool) (b : Bool) (bs : List Bool) :
    refStep f (b :: bs) it = (b && f it) :: bs := by
  cases it <;> first | rfl | simp at hop

/-- the reference's stack `groups` is, throughout both loops, the model's `or_groups` evaluated; a state `none` of the
    model's loop (an atom outside the model was met) asks nothing -/
def Sim (env : Env) (st : Option (List M)) (bs : List Bool) : Prop :=
  ∀ gs, st = some gs → (∀ m ∈ gs, GAll (Good env) m) ∧ bs = gs.map (sem env)

section
variable (env : Env) (he : EnvTotal env) (hF : FromSpecOk env) (hP : PyMergeOk env)
include he hF hP

/-- `ih`: `build_sound` at the fuel of the operands -/
theorem bstep_sim (fuel : Nat) (ih : ∀ p m, PGood env fuel p → build fuel p = some m →
      GAll (Good env) m ∧ sem env m = refSem env fuel p)
    {st : Option (List M)} {bs : List Bool} {it : PItem} (hit : PGood env fuel it) (hr : Sim env st bs) :
    Sim env (bstep fuel st it) (refStep (refSem env fuel) bs it) := by
  fun_cases bstep fuel st it <;> intro gs' h
  case case1 | case5 => cases h
  case case2 gs =>
    -- `or`: a new group, `any` against `true`
    obtain ⟨hg, rfl⟩ := hr gs rfl
    cases h
    exact ⟨List.forall_mem_cons.2 ⟨trivial, hg⟩, rfl⟩
  case case3 gs =>
    obtain ⟨hg, rfl⟩ := hr gs rfl
    cases h
    exact ⟨hg, rfl⟩
  case case4 g gs h1 h2 =>
    -- an operand `x`: the current group `g` becomes `g & x`, its value `sem g && refSem x`
    obtain ⟨hg, rfl⟩ := hr _ rfl
    obtain ⟨x, hx, rfl⟩ := Option.map_eq_some_iff.1 h
    obtain ⟨hx1, hx2⟩ := ih it x hit hx
    rw [List.forall_mem_cons] at hg
    have A := C02.and_sound env he hF hP fuel g x hg.1 hx1
    rw [List.map_cons, refStep_operand ⟨h2, h1⟩, List.map_cons, A.2, hx2]
    exact ⟨List.forall_mem_cons.2 ⟨A.1, hg.2⟩, rfl⟩

theorem build_sound : ∀ (fuel : Nat) (p : PItem) (m : M), PGood env fuel p → build fuel p = some m →
    GAll (Good env) m ∧ sem env m = refSem env fuel p := by
  intro fuel
  induction fuel with
  | zero => intro p m _ h; simp [build] at h
  | succ fuel ih =>
    intro p m hg hb
    cases p with
    | and_ | or_ => simp [build] at hb
    | atom v l o r =>
      rw [build_atom, Option.map_eq_some_iff] at hb
      obtain ⟨a, ha, rfl⟩ := hb
      exact ⟨by simpa [GAll, Good] using (pgood_atom env fuel ha).1 hg, (refSem_atom env fuel ha).symm⟩
    | group items =>
      rw [build_group, Option.map_eq_some_iff] at hb
      obtain ⟨groups, hfold, rfl⟩ := hb
      -- the two loops run side by side
      have S : Sim env (items.foldl (bstep fuel) (some [.any])) (items.foldl (refStep (refSem env fuel)) [true]) :=
        List.foldl_rel (fun _ h => by cases h; exact ⟨by simp [GAll], rfl⟩)
          fun it hit _ _ => bstep_sim env he hF hP fuel ih (hg it hit)
      obtain ⟨r1, r2⟩ := S groups hfold
      -- `MarkerUnion.of` over the groups (in source order) is `any` over them
      have U := (sound_all (singleSound env he hF hP) fuel).unionOfList_ groups.reverse
        ((GAllL_iff ..).2 fun x hx => r1 x (List.mem_reverse.1 hx))
      refine ⟨U.1, ?_⟩
      rw [U.2, List.any_reverse, refSem, r2, List.any_map]
      rfl

end

/-- `build_sound` with the bridge facts proved (C02.bridge): no assumption beyond `EnvTotal` and good atoms -/
theorem build_sound_final (env : Env) (he : EnvTotal env) (fuel : Nat) (p : PItem) (m : M)
    (hg : PGood env fuel p) (hb : build fuel p = some m) :
    GAll (Good env) m ∧ sem env m = refSem env fuel p :=
  build_sound env he (C02.bridge env he).1 (C02.bridge env he).2 fuel p m hg hb

/-- non-vacuity: `os_name == "a" or "b" == os_name and os_name != "c"` builds -/
example : (build 10 (.group [.atom true "os_name" "==" "a", .or_, .atom false "b" "==" "os_name", .and_,
    .atom true "os_name" "!=" "c"])).isSome = true := by decide +kernel

end C03
end DepLogic
