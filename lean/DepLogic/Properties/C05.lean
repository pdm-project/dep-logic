import DepLogic.Properties.C01
import DepLogic.Proofs.CutAlgebra
/-
  C05 — Specifier results are canonical: `==`, `is_empty()`, `is_any()` are exact.

  T1 (any linear preorder): results are in the canonical shape; `is_empty()`/`is_any()`
      are sound.
  T2 (dense linear preorder without endpoints): they are also complete.
  The PEP 440 order itself is *not* dense (`1.0` and `1.0.post0.dev0` are neighbours), so
  the completeness direction genuinely fails on gap ranges – known finding G1.
  T3 (ANY linear preorder, PEP 440 included): read over CUTS — the positions at, just below and
      just above a bound ("membership read structurally from the bounds") — `==`, `is_empty()`
      and `is_any()` are exact: `eq_exact`, `isEmpty_exact_cuts`, `isAny_exact_cuts`.  The version
      `v` is the cut `(v, 1)`, so equal objects admit the same versions (`eq_sound`); the converse
      for versions alone is what G1 refutes.
-/
namespace DepLogic
namespace C05
open Spec LinPre
variable {α : Type} [LinPre α]

/-- shape: every reachable specifier is empty, universal, one non-degenerate range, or
    ≥ 2 ascending, pairwise separated, non-degenerate ranges -/
theorem results_canonical {Leaf : Spec α → Prop} (hleaf : ∀ s, Leaf s → Canon s) {s : Spec α}
    (h : C01.Reach Leaf s) : Canon s := C01.reach_canon hleaf h

theorem union_no_universal (rs : List (Range α)) (t) (h : Canon (.union rs t)) :
    ∀ r ∈ rs, r.isAny = false := by
  intro r hr
  rw [← Bool.not_eq_true]
  intro ha
  -- a universal range has its ends at the infinities, and nothing lies beyond those
  have e := (Range.isAny_iff r).1 ha
  match rs, h.1, h.2.2, hr with
  | a :: b :: rest, _, hp, hr =>
    have hp' := List.pairwise_cons.1 hp
    rcases List.mem_cons.1 hr with rfl | hr
    · exact (hp'.1 b List.mem_cons_self).lt (e.2 ▸ Pos.le_top _)
    · exact (hp'.1 r hr).lt (e.1 ▸ Pos.bot_le _)

/-- `is_empty()` and `is_any()` are `==` against the two constants, so what holds of `==`
    (`eq_sound`, `eq_exact`) holds of them -/
theorem isEmpty_eq_beq (a : Spec α) : a.isEmpty = Spec.beq .empty a := by cases a <;> rfl

theorem isAny_eq_beq (a : Spec α) : a.isAny = Spec.beq .any a := rfl

/-- `Spec.memC_point`, quoted under the name the checks use -/
theorem cut_point (a : Spec α) (v : α) : a.memC v 1 ↔ a.mem v := memC_point a v

theorem eq_sound (a b : Spec α) (h : a.beq b = true) (v : α) : a.mem v ↔ b.mem v := by
  rw [← cut_point, ← cut_point]; exact memC_of_beq a b h v 1

theorem isEmpty_sound (a b : Spec α) (h : (a.and b).isEmpty = true) :
    ¬ ∃ v, a.mem v ∧ b.mem v := by
  rintro ⟨v, hv⟩
  rw [isEmpty_eq_beq] at h
  exact (eq_sound _ _ h v).2 ((C01.and_exact a b v).2 hv)

theorem isAny_sound (a b r : Spec α) (ha : Canon a) (hb : Canon b) (hr : a.or b = some r)
    (h : r.isAny = true) : ∀ v, a.mem v ∨ b.mem v :=
  fun v => ((or_some ha hb hr).2 v).1 ((eq_sound .any r h v).1 trivial)

/-- `==` between results is exactly "denote the same set of cuts" -/
theorem eq_exact (a0 : α) (a b : Spec α) (ha : Canon a) (hb : Canon b) :
    a.beq b = true ↔ ∀ x s, a.memC x s ↔ b.memC x s :=
  ⟨memC_of_beq a b, canon_unique a0 a b ha hb⟩

theorem isEmpty_exact_cuts (a0 : α) (a : Spec α) (ha : Canon a) :
    a.isEmpty = true ↔ ∀ x s, ¬ a.memC x s := by
  rw [isEmpty_eq_beq, eq_exact a0 .empty a trivial ha]
  simp only [memC_empty, false_iff]

theorem and_nonempty_cuts (a0 : α) (a b : Spec α) (ha : Canon a) (hb : Canon b) :
    (a.and b).isEmpty = false ↔ ∃ x s, a.memC x s ∧ b.memC x s := by
  rw [← Bool.not_eq_true, isEmpty_exact_cuts a0 _ (and_canon a b ha hb)]
  simp only [Spec.and_memC, Classical.not_forall, Classical.not_not]

theorem isAny_exact_cuts (a0 : α) (a : Spec α) (ha : Canon a) :
    a.isAny = true ↔ ∀ x s, a.memC x s := by
  rw [isAny_eq_beq, eq_exact a0 .any a trivial ha]
  simp only [memC_any, true_iff]

/-- otherwise the complement would have no cut, the specifier every cut, and `is_any()` would hold -/
theorem invert_not_empty (a0 : α) (s : Spec α) (h : Canon s) (hna : s.isAny = false) :
    (s.invert).isEmpty = false := by
  rw [← Bool.not_eq_true] at hna ⊢
  refine mt (fun he => (isAny_exact_cuts a0 s h).2 fun x n => ?_) hna
  exact Classical.not_not.1 (mt (invert_memC s h x n).2 ((isEmpty_exact_cuts a0 _ (invert_canon s h)).1 he x n))

class DenseUnbounded (α : Type) [LinPre α] : Prop where
  dense : ∀ a b : α, lt a b → ∃ c, lt a c ∧ lt c b
  noMin : ∀ a : α, ∃ c, lt c a
  noMax : ∀ a : α, ∃ c, lt a c
  ne : Nonempty α

theorem range_nonempty [DenseUnbounded α] (r : Range α) (h : r.WF) : ∃ v, r.mem v := by
  -- with the bounds given, the two halves of `mem` and the second half of `WF` are what their `match` selects
  rcases r with ⟨mn, mx, i, a, t⟩
  cases mn with
  | none =>
    cases mx with
    | none =>
      obtain ⟨c⟩ := (DenseUnbounded.ne : Nonempty α)
      exact ⟨c, trivial, trivial⟩
    | some b =>
      obtain ⟨c, hc⟩ := DenseUnbounded.noMin b
      exact ⟨c, trivial, .inl hc⟩
  | some x =>
    cases mx with
    | none =>
      obtain ⟨c, hc⟩ := DenseUnbounded.noMax x
      exact ⟨c, .inl hc, trivial⟩
    | some y =>
      rcases h.2 with h | ⟨h1, h2, h3⟩
      · obtain ⟨c, hc1, hc2⟩ := DenseUnbounded.dense x y h
        exact ⟨c, .inl hc1, .inl hc2⟩
      · exact ⟨x, .inr ⟨⟨le_refl x, le_refl x⟩, h2⟩, .inr ⟨h1, h3⟩⟩


theorem canon_nonempty [DenseUnbounded α] (s : Spec α) (h : Canon s) (hne : s.isEmpty = false) :
    ∃ v, s.mem v := by
  cases s with
  | empty => simp [isEmpty] at hne
  | any => obtain ⟨c⟩ := (DenseUnbounded.ne : Nonempty α); exact ⟨c, trivial⟩
  | range r => exact range_nonempty r h
  | union rs t =>
    match rs, h with
    | [], h => exact absurd h.1 (by simp)
    | r :: rest, h =>
      obtain ⟨v, hv⟩ := range_nonempty r (h.2.1 r (by simp))
      exact ⟨v, r, by simp, hv⟩

theorem and_nonempty [DenseUnbounded α] (a b : Spec α) (ha : Canon a) (hb : Canon b) :
    (a.and b).isEmpty = false ↔ ∃ v, a.mem v ∧ b.mem v := by
  refine ⟨fun he => ?_, fun h => Bool.eq_false_iff.2 fun he => isEmpty_sound a b he h⟩
  obtain ⟨v, hv⟩ := canon_nonempty _ (and_canon a b ha hb) he
  exact ⟨v, (Spec.and_mem a b v).1 hv⟩

/-- `(a & b).is_empty()` is true exactly when no version satisfies both -/
theorem isEmpty_exact [DenseUnbounded α] (a b : Spec α) (ha : Canon a) (hb : Canon b) :
    (a.and b).isEmpty = true ↔ ¬ ∃ v, a.mem v ∧ b.mem v := by
  rw [← and_nonempty a b ha hb, Bool.not_eq_false]

theorem canon_not_any_misses [DenseUnbounded α] (s : Spec α) (h : Canon s) (hna : s.isAny = false) :
    ∃ v, ¬ s.mem v := by
  obtain ⟨a0⟩ := (DenseUnbounded.ne : Nonempty α)
  obtain ⟨v, hv⟩ := canon_nonempty _ (invert_canon s h) (invert_not_empty a0 s h hna)
  exact ⟨v, (invert_mem s h v).1 hv⟩

/-- `(a | b).is_any()` is true exactly when every version satisfies one of them -/
theorem isAny_exact [DenseUnbounded α] (a b r : Spec α) (ha : Canon a) (hb : Canon b)
    (hr : a.or b = some r) : r.isAny = true ↔ ∀ v, a.mem v ∨ b.mem v := by
  constructor
  · exact isAny_sound a b r ha hb hr
  · intro h
    obtain ⟨h2, h3⟩ := or_some ha hb hr
    cases he : r.isAny with
    | true => rfl
    | false =>
      obtain ⟨v, hv⟩ := canon_not_any_misses r h2 he
      exact absurd ((h3 v).2 (h v)) hv

/-- the G1 shape at PEP 440 versions: `(1.0, 1.0.post0.dev0)` admits no version although it is a
    non-degenerate range; over cuts it is not empty (the cut just above `1.0` is in it) — which is
    why the object is not `EmptySpecifier()` -/
example : let g : Spec Ver := .range { min := some { release := [1, 0] },
                                       max := some { release := [1, 0], post := some 0, dev := some 0 } }
    Canon g ∧ g.memC { release := [1, 0] } 2 ∧ g.isEmpty = false := by
  refine ⟨by decide, ?_, rfl⟩
  rw [memC_range]; unfold Range.memC; decide

end C05
end DepLogic
