import DepLogic.Proofs.MarkerSingles
/-
  C15 — marker results are in normal form.

  PARTIAL.  The full statement (every result of parse/&/|/only/exclude is empty, universal, a
  single marker, or a compound with >= 2 distinct children none of which is empty, universal
  or a compound of the same kind) is an invariant through the `while old != new` fixpoints of
  `MultiMarker.of`/`MarkerUnion.of`, `union_simplify`/`intersect_simplify`, cnf/dnf and the
  least-complexity choice in `union()`.  The loops are modelled with fuel, and for a run that
  exhausts its fuel the statement is false of the model, so it cannot be a theorem "for every
  fuel" the way C02's soundness is; a proof would need a termination measure for the Python
  loops, which we do not have.  What is proved, for every fuel and every operand list:

  * `flatten_nodup` / `mkMulti_nodup` / `mkUnion_nodup`: the constructors never keep two equal
    children (`flatten_items`' `if item not in flattened`);
  * `multiOf_exit` / `unionOfList_exit`: `of` returns EmptyMarker/AnyMarker, the one marker of its
    final list, or the constructor applied to a final list with >= 2 entries, none absorbing (that the
    constructor keeps >= 2 of them is shown for flat operands only);
  * `and_neutral` / `or_neutral`: an Empty/Any operand on the left, or on the right of a single
    marker, is dropped or absorbs;
  * `and_single_shape` / `or_single_shape`: `&` / `|` of two single markers is the one marker the merge
    tables produce or a compound of exactly the two operands, which are then different;
  * the FULL normal form (`FlatNF`) when the operands are empty, universal or single markers: of `of`
    (`ofB_kept`: single markers and the absorbing constant, every fuel, hence `multiOf_flat` /
    `unionOfList_flat`; `ofB_atomic`: both constants, fuel >= 3), of `&` on flat conjunctions and `|` on flat
    disjunctions (compounds over single markers; `and_flat` / `or_flat`, fuel >= 6) and of `exclude()` /
    `without_extras()` on them (`exclude_flat_multi` / `exclude_flat_union`).

  The remaining obligation (mixed operands: disjunctions of conjunctions and deeper — no same-kind
  nesting and no neutral child inside the final list there) is decided on every run by the
  normal-form oracle on the implementation's results and by the structural correspondence of those
  results with this model (streams `C15.expr`, `C15.raw`).
-/
namespace DepLogic
namespace C15
open M

theorem forall_mem_pair {P : M → Prop} {x y : M} (hx : P x) (hy : P y) : ∀ z ∈ [x, y], P z := by
  simpa using ⟨hx, hy⟩

def NoDup : List M → Prop
  | [] => True
  | x :: xs => memB x xs = false ∧ NoDup xs

theorem mbeq_refl : ∀ (x : M), beq x x = true := M.beq_refl

theorem memB_nil (x : M) : memB x [] = false := rfl

theorem memB_eq_false {x : M} {l : List M} : memB x l = false ↔ ∀ y ∈ l, beq x y = false := by
  simp [memB]

theorem nodup_iff (l : List M) : NoDup l ↔ l.Pairwise fun a b => beq a b = false := by
  induction l with
  | nil => simp [NoDup]
  | cons x xs ih => rw [NoDup, List.pairwise_cons, memB_eq_false, ih]

theorem nodup_append_one (acc : List M) (x : M) (h : NoDup acc) (hx : memB x acc = false) : NoDup (acc ++ [x]) :=
  (nodup_iff _).2 (List.pairwise_append.2 ⟨(nodup_iff _).1 h, List.pairwise_singleton _ _, fun a ha b hb => by
    rw [List.mem_singleton.1 hb, beq_symm]; exact memB_eq_false.1 hx a ha⟩)

theorem foldl_addNew_nodup (xs acc : List M) (h : NoDup acc) : NoDup (xs.foldl addNew acc) :=
  List.foldlRecOn xs addNew h fun acc ih x _ => by
    unfold addNew
    split
    · exact ih
    · rename_i hm
      exact nodup_append_one acc x ih (by simpa using hm)

theorem flatten_nodup (b : Bool) : ∀ (fuel : Nat) (items acc : List M), NoDup acc → NoDup (flattenInto b fuel items acc) := by
  intro fuel items acc ha
  rw [flattenInto_eq]
  exact foldl_addNew_nodup _ acc ha

theorem mkMulti_nodup (fuel : Nat) (ms : List M) : ∃ l, mkMulti fuel ms = .multi l ∧ NoDup l :=
  ⟨_, rfl, flatten_nodup true fuel ms [] trivial⟩

theorem mkUnion_nodup (fuel : Nat) (ms : List M) : ∃ l, mkUnion fuel ms = .union l ∧ NoDup l :=
  ⟨_, rfl, flatten_nodup false fuel ms [] trivial⟩

theorem ofB_exit (b : Bool) (fuel : Nat) (ms : List M) :
    ofB b (fuel + 1) ms = absorbing b ∨
    (loopB b fuel [] (flattenInto b fuel ms []) = some [] ∧ ofB b (fuel + 1) ms = neutral b) ∨
    (∃ new x, loopB b fuel [] (flattenInto b fuel ms []) = some new ∧ new = [x] ∧ ofB b (fuel + 1) ms = x) ∨
    (∃ new, loopB b fuel [] (flattenInto b fuel ms []) = some new ∧ 2 ≤ new.length ∧
      new.any (isAbs b) = false ∧ ofB b (fuel + 1) ms = mkB b fuel new) := by
  rw [ofB_succ]
  cases h : loopB b fuel [] (flattenInto b fuel ms []) with
  | none => exact Or.inl rfl
  | some new =>
    simp only
    by_cases he : new.any (isAbs b) = true
    · rw [if_pos he]; exact Or.inl rfl
    · rw [if_neg he]
      match new, he with
      | [], _ => exact Or.inr (Or.inl ⟨rfl, rfl⟩)
      | [x], _ => exact Or.inr (Or.inr (Or.inl ⟨_, x, rfl, rfl, rfl⟩))
      | a :: b' :: rest, he => exact Or.inr (Or.inr (Or.inr ⟨_, rfl, by simp, by simpa using he, rfl⟩))

theorem multiOf_exit (fuel : Nat) (ms : List M) :
    multiOf (fuel + 1) ms = .empty ∨ multiOf (fuel + 1) ms = .any ∨
    (∃ new x, multiLoop fuel [] (flattenInto true fuel ms []) = some new ∧ new = [x] ∧ multiOf (fuel + 1) ms = x) ∨
    (∃ new, multiLoop fuel [] (flattenInto true fuel ms []) = some new ∧ 2 ≤ new.length ∧
      new.any isEmpty = false ∧ multiOf (fuel + 1) ms = mkMulti fuel new) :=
  (ofB_exit true fuel ms).imp_right (Or.imp_left And.right)

theorem unionOfList_exit (fuel : Nat) (ms : List M) :
    unionOfList (fuel + 1) ms = .any ∨ unionOfList (fuel + 1) ms = .empty ∨
    (∃ new x, unionLoop fuel [] (flattenInto false fuel ms []) = some new ∧ new = [x] ∧ unionOfList (fuel + 1) ms = x) ∨
    (∃ new, unionLoop fuel [] (flattenInto false fuel ms []) = some new ∧ 2 ≤ new.length ∧
      new.any isAny = false ∧ unionOfList (fuel + 1) ms = mkUnion fuel new) :=
  (ofB_exit false fuel ms).imp_right (Or.imp_left And.right)

theorem op_neutral (b : Bool) (fuel : Nat) (a : M) :
    opB b (fuel + 1) (neutral b) a = a ∧ opB b (fuel + 1) (absorbing b) a = absorbing b ∧
    (a.isSingle = true → opB b (fuel + 1) a (neutral b) = a ∧ opB b (fuel + 1) a (absorbing b) = absorbing b) :=
  ⟨opB_neutral b fuel a, opB_absorbing b fuel a, fun hs => ⟨opB_single_neutral b fuel hs, opB_single_absorbing b fuel hs⟩⟩

theorem and_neutral (fuel : Nat) (a : M) :
    M.and (fuel + 1) .any a = a ∧ M.and (fuel + 1) .empty a = .empty ∧
    (a.isSingle = true → M.and (fuel + 1) a .any = a ∧ M.and (fuel + 1) a .empty = .empty) :=
  op_neutral true fuel a

theorem or_neutral (fuel : Nat) (a : M) :
    M.or (fuel + 1) .empty a = a ∧ M.or (fuel + 1) .any a = .any ∧
    (a.isSingle = true → M.or (fuel + 1) a .empty = a ∧ M.or (fuel + 1) a .any = .any) :=
  op_neutral false fuel a

def AllSingle (l : List M) : Prop := ∀ x ∈ l, x.isSingle = true

/-- the normal form C15 names, for a compound over single markers -/
def FlatNF (isAnd : Bool) (r : M) : Prop :=
  r = .empty ∨ r = .any ∨ r.isSingle = true ∨
  ∃ l, r = (if isAnd then .multi l else .union l) ∧ 2 ≤ l.length ∧ NoDup l ∧ AllSingle l

/-- what the merge tables return -/
def Atomic (m : M) : Prop := m = .empty ∨ m = .any ∨ m.isSingle = true
def AllAtomic (l : List M) : Prop := ∀ x ∈ l, Atomic x

theorem Atomic.of_single {x : M} (h : x.isSingle = true) : Atomic x := Or.inr (Or.inr h)
theorem AllSingle.atomic {l : List M} (h : AllSingle l) : AllAtomic l := fun x hx => .of_single (h x hx)

theorem flatNF_iff (b : Bool) (r : M) :
    FlatNF b r ↔ Atomic r ∨ ∃ l, r = junction b l ∧ 2 ≤ l.length ∧ NoDup l ∧ AllSingle l := by
  cases b <;> simp [FlatNF, Atomic, junction, or_assoc]

/-! ### the single-marker layer: `&` / `|` of two single markers never builds a one-child compound

  (Exactly what defect D23 violated: after the `fix:` 4fb0145 an atom whose specifier view is not exact
  was not merged with itself any more, `MultiMarker(m, m)` de-duplicated, and the result had one child.
  With the idempotent branch of `_merge_single_markers` (a389c12) the pair handed to the constructor is
  always two different markers.) -/

def Shaped : SRes → Prop
  | .done m => Atomic m
  | .pair p q => beq p q = false ∧ p.isSingle = true ∧ q.isSingle = true

theorem singleB_shaped (b : Bool) (x y : M) (hx : x.isSingle = true) (hy : y.isSingle = true) :
    Shaped (singleB b x y) := by
  have h := singleB_answers b x y hx hy
  generalize singleB b x y = r at h ⊢
  cases r with
  | done m => exact h.imp_right (Or.imp_right And.left)
  | pair p q =>
    rcases h.1 with ⟨rfl, rfl⟩ | ⟨rfl, rfl⟩
    · exact ⟨h.2, hx, hy⟩
    · exact ⟨h.2, hy, hx⟩

theorem singleAnd_pair_distinct (x y p q : M) (hx : x.isSingle = true) (hy : y.isSingle = true)
    (h : singleAnd x y = .pair p q) : beq p q = false ∧ p.isSingle = true ∧ q.isSingle = true := by
  have hs := singleB_shaped true x y hx hy
  rw [show singleB true x y = _ from h] at hs
  exact hs

theorem singleOr_pair_distinct (x y p q : M) (hx : x.isSingle = true) (hy : y.isSingle = true)
    (h : singleOr x y = .pair p q) : beq p q = false ∧ p.isSingle = true ∧ q.isSingle = true := by
  have hs := singleB_shaped false x y hx hy
  rw [show singleB false x y = _ from h] at hs
  exact hs

/-! ### the `of` loops over empty / universal / single markers, for EVERY fuel

  When every operand is empty, universal or a single marker, the first pass skips the neutral constant and
  from then on the state holds only single markers and the absorbing constant (`Kept`), without duplicates
  (`Inv`): what is replaced is single, what is appended comes from the operands. The final `any(m.is_empty())`
  / `any(m.is_any())` test answers the absorbing constant, so the normal form of the result does not depend
  on the loop having converged. -/

def Kept (b : Bool) (x : M) : Prop := Atomic x ∧ isNeut b x = false
def Inv (b : Bool) (l : List M) : Prop := (∀ x ∈ l, Kept b x) ∧ NoDup l

theorem inv_nil (b : Bool) : Inv b [] := ⟨fun _ hx => (nomatch hx), trivial⟩

theorem Kept.of_single (b : Bool) {x : M} (h : x.isSingle = true) : Kept b x :=
  ⟨.of_single h, (single_not_const b h).1⟩

theorem AllSingle.kept (b : Bool) {l : List M} (h : AllSingle l) : ∀ x ∈ l, Kept b x := fun x hx => .of_single b (h x hx)

theorem Kept.single {b : Bool} {x : M} (h : Kept b x) (ha : isAbs b x = false) : x.isSingle = true := by
  obtain ⟨rfl | rfl | hs, hn⟩ := h
  · cases b <;> first | exact Bool.noConfusion ha | exact Bool.noConfusion hn
  · cases b <;> first | exact Bool.noConfusion ha | exact Bool.noConfusion hn
  · exact hs

theorem addNew_ne_nil (acc : List M) (x : M) : addNew acc x ≠ [] := by
  unfold addNew; split
  · rename_i h; intro he; subst he; simp [memB] at h
  · simp

theorem foldl_addNew_ne_nil : ∀ (xs acc : List M), (acc ≠ [] ∨ xs ≠ []) → xs.foldl addNew acc ≠ []
  | [], acc, h => by rcases h with h | h; exact h; exact absurd rfl h
  | x :: xs, acc, _ => foldl_addNew_ne_nil xs _ (Or.inl (addNew_ne_nil acc x))

theorem flatten_plain (b : Bool) (fuel : Nat) (items acc : List M) (hi : ∀ x ∈ items, isJunction b x = false) :
    flattenInto b fuel items acc = items.foldl addNew acc := by
  rw [flattenInto_eq, splice_plain b fuel items hi]

theorem atomic_not_junction (b : Bool) {x : M} (h : Atomic x) : isJunction b x = false := by
  rcases h with rfl | rfl | h
  · cases b <;> rfl
  · cases b <;> rfl
  · exact single_not_junction b h

theorem flatten_atomic (b : Bool) (fuel : Nat) (items acc : List M) (hi : AllAtomic items) :
    flattenInto b fuel items acc = items.foldl addNew acc :=
  flatten_plain b fuel items acc fun x hx => atomic_not_junction b (hi x hx)

theorem mem_flatten_atomic (b : Bool) (fuel : Nat) (items : List M) (hi : AllAtomic items) {y : M}
    (h : y ∈ flattenInto b fuel items []) : y ∈ items := by
  rw [flatten_atomic b fuel items [] hi] at h
  exact (mem_foldl_addNew items [] h).resolve_left (by simp)

theorem foldl_addNew_id (l acc : List M) (h : NoDup (acc ++ l)) : l.foldl addNew acc = acc ++ l := by
  induction l generalizing acc with
  | nil => simp
  | cons x xs ih =>
    have hx : memB x acc = false := memB_eq_false.2 fun y hy => by
      rw [beq_symm]; exact (List.pairwise_append.1 ((nodup_iff _).1 h)).2.2 y hy x (List.mem_cons_self ..)
    rw [List.foldl_cons, addNew, if_neg (by simp [hx]), ih _ (by simpa using h), List.append_assoc, List.singleton_append]

theorem mk_flat (b : Bool) (fuel : Nat) (l : List M) (hs : AllSingle l) (hd : NoDup l) :
    flattenInto b fuel l [] = l := by
  rw [flatten_atomic b fuel l [] hs.atomic, foldl_addNew_id l [] (by simpa using hd)]
  simp

theorem decideWith_kept (b : Bool) (combine : M → M → M) (simplify : M → M → Option M) (marker mark m : M)
    (hm : Kept b mark) (h : decideWith b combine simplify mark marker = .replace m) : m.isSingle = true := by
  revert h
  fun_cases decideWith b combine simplify mark marker <;> intro h
  case case2 hs => exact Step.replace.inj h ▸ hs
  case case4 hns hj _ _ =>
    rw [ite_isOther, atomic_not_junction (!b) hm.1] at hj
    cases hj
  all_goals cases h

/-- `Inv` on the state of a pass, `none` once the absorbing constant was answered; `c`: when the state must not be empty -/
def InvO (b : Bool) (c : Prop) : Option (List M) → Prop
  | none => True
  | some l => Inv b l ∧ (c → l ≠ [])

theorem InvO.mono {b : Bool} {c c' : Prop} {st : Option (List M)} (h : InvO b c st) (hc : c' → c) : InvO b c' st := by
  cases st with
  | none => trivial
  | some l => exact ⟨h.1, fun x => h.2 (hc x)⟩

section pass
/- all the loop invariant needs of the decision on a mark and of the flattening -/
variable {b : Bool} {decide : M → M → Step} {flat : List M → List M}
  (hd : ∀ mark marker m, Kept b mark → decide mark marker = .replace m → m.isSingle = true)
  (hf : ∀ l, AllAtomic l → flat l = l.foldl addNew [])
include hd hf

/-- `c'`, the condition after the step: it may rest on `c` or on the marker just processed being kept -/
theorem passStep_kept (c c' : Prop) (st : Option (List M)) (marker : M) (hs : InvO b c st) (hm : Atomic marker)
    (hc : c' → c ∨ Kept b marker) : InvO b c' (passStep b decide flat st marker) := by
  fun_cases passStep b decide flat st marker
  case case1 => trivial
  case case2 new hmem => exact ⟨hs.1, fun _ => by rintro rfl; cases hmem⟩
  case case3 new _ hskip =>
    rw [ite_isNeut] at hskip
    exact ⟨hs.1, fun h => hs.2 ((hc h).resolve_right fun hk => by rw [hk.2] at hskip; cases hskip)⟩
  case case4 => trivial
  case case5 new _ _ _ hsc =>
    obtain ⟨p, mark, q, m, rfl, hrep, rfl⟩ := scan_replace hsc
    obtain ⟨hp, hq⟩ := List.forall_mem_append.1 hs.1.1
    obtain ⟨hmark, hq⟩ := List.forall_mem_cons.1 hq
    have hall : ∀ y ∈ p ++ m :: q, Kept b y :=
      List.forall_mem_append.2 ⟨hp, List.forall_mem_cons.2 ⟨.of_single b (hd mark marker m hmark hrep), hq⟩⟩
    rw [hf _ fun y hy => (hall y hy).1]
    exact ⟨⟨fun y hy => hall y ((mem_foldl_addNew _ [] hy).resolve_left (by simp)), foldl_addNew_nodup _ [] trivial⟩,
      fun _ => foldl_addNew_ne_nil _ _ (Or.inr (by simp))⟩
  case case6 new hmem hskip _ =>
    rw [ite_isNeut] at hskip
    exact ⟨⟨List.forall_mem_append.2 ⟨hs.1.1, List.forall_mem_singleton.2 ⟨hm, by simpa using hskip⟩⟩,
      nodup_append_one new marker hs.1.2 (by simpa using hmem)⟩, fun _ => by simp⟩

theorem pass_kept (c : Prop) (old : List M) (ho : AllAtomic old) (st : Option (List M)) (hs : InvO b c st) :
    InvO b c (old.foldl (passStep b decide flat) st) :=
  List.foldlRecOn old _ hs fun st ih m hm => passStep_kept hd hf c c st m ih (ho m hm) Or.inl

end pass

theorem passB_kept (b : Bool) (fuel : Nat) (old : List M) (ho : AllAtomic old) (c : Prop)
    (hc : c → old ≠ [] ∧ ∀ x ∈ old, Kept b x) : InvO b c (passB b (fuel + 1) old) := by
  have hd := fun mark marker m => decideWith_kept b (opB b fuel) (simpB b fuel) marker mark m
  have hf := fun l hl => flatten_atomic b fuel l [] hl
  rw [passB_succ]
  cases old with
  | nil => exact ⟨inv_nil b, fun h => absurd rfl (hc h).1⟩
  | cons x rest =>
    -- after the first marker, if that is kept, the state is not empty
    exact pass_kept hd hf c rest (fun y hy => ho y (List.mem_cons_of_mem _ hy)) _
      (passStep_kept hd hf False c (some []) x ⟨inv_nil b, False.elim⟩ (ho x (List.mem_cons_self ..))
        fun h => Or.inr ((hc h).2 x (List.mem_cons_self ..)))

theorem passB_inv (b : Bool) (fuel : Nat) (old : List M) (ho : Inv b old) : InvO b (old ≠ []) (passB b fuel old) := by
  cases fuel with
  | zero => rw [passB_zero]; exact ⟨ho, id⟩
  | succ n => exact passB_kept b n old (fun x hx => (ho.1 x hx).1) _ fun h => ⟨h, ho.1⟩

theorem loopB_inv (b : Bool) : ∀ (fuel : Nat) (old new : List M), Inv b new → InvO b (new ≠ []) (loopB b fuel old new)
  | 0, _, new, hs => by rw [loopB_zero]; exact ⟨hs, id⟩
  | fuel + 1, old, new, hs => by
    rw [loopB_succ]
    split
    · exact ⟨hs, id⟩
    · have hp := passB_inv b fuel new hs
      generalize passB b fuel new = st at hp ⊢
      cases st with
      | none => trivial
      | some new' => exact (loopB_inv b fuel new new' hp.1).mono hp.2

/-- the first pass establishes the invariant -/
theorem loopB_atomic (b : Bool) (fuel : Nat) (new : List M) (hs : AllAtomic new) :
    InvO b False (loopB b (fuel + 2) [] new) := by
  rw [loopB_succ]
  split
  · rename_i hb
    cases new with
    | nil => exact ⟨inv_nil b, False.elim⟩
    | cons => cases hb
  · have hp := passB_kept b fuel new hs False False.elim
    generalize passB b (fuel + 1) new = st at hp ⊢
    cases st with
    | none => trivial
    | some new' => exact (loopB_inv b (fuel + 1) new new' hp.1).mono False.elim

theorem atomic_flatNF (b : Bool) (m : M) (h : Atomic m) : FlatNF b m := (flatNF_iff b m).2 (Or.inl h)

theorem ofB_flatNF (b : Bool) (fuel : Nat) (ms : List M) {c : Prop}
    (h : InvO b c (loopB b fuel [] (flattenInto b fuel ms []))) :
    FlatNF b (ofB b (fuel + 1) ms) ∧ (c → isNeut b (ofB b (fuel + 1) ms) = false) := by
  have hconst : Atomic (neutral b) ∧ Atomic (absorbing b) ∧ isNeut b (absorbing b) = false ∧
      ∀ l, isNeut b (junction b l) = false := by
    cases b
    · exact ⟨Or.inl rfl, Or.inr (Or.inl rfl), rfl, fun _ => rfl⟩
    · exact ⟨Or.inr (Or.inl rfl), Or.inl rfl, rfl, fun _ => rfl⟩
  rcases ofB_exit b fuel ms with he | ⟨hl, he⟩ | ⟨new, x, hl, rfl, he⟩ | ⟨new, hl, hlen, ha, he⟩ <;> rw [he]
  · exact ⟨atomic_flatNF _ _ hconst.2.1, fun _ => hconst.2.2.1⟩
  · rw [hl] at h
    exact ⟨atomic_flatNF _ _ hconst.1, fun hc => absurd rfl (h.2 hc)⟩
  · rw [hl] at h
    have hx := h.1.1 x (List.mem_cons_self ..)
    exact ⟨atomic_flatNF _ _ hx.1, fun _ => hx.2⟩
  · rw [hl] at h
    obtain ⟨h1, h2⟩ := h.1
    have h1' : AllSingle new := fun x hx => (h1 x hx).single (Bool.eq_false_iff.2 (List.any_eq_false.1 ha x hx))
    rw [mkB_eq]
    exact ⟨(flatNF_iff _ _).2 (Or.inr ⟨new, congrArg _ (mk_flat b fuel _ h1' h2), hlen, h2, h1'⟩), fun _ => hconst.2.2.2 _⟩

theorem flatten_inv (b : Bool) (fuel : Nat) (ms : List M) (hs : ∀ x ∈ ms, Kept b x) : Inv b (flattenInto b fuel ms []) :=
  ⟨fun y hy => hs y (mem_flatten_atomic _ _ _ (fun x hx => (hs x hx).1) hy), flatten_nodup b fuel ms [] trivial⟩

theorem ofB_kept (b : Bool) (fuel : Nat) (ms : List M) (hs : ∀ x ∈ ms, Kept b x) :
    FlatNF b (ofB b (fuel + 1) ms) :=
  (ofB_flatNF b fuel ms (loopB_inv b fuel [] _ (flatten_inv b fuel ms hs))).1

/-- `+ 3`: one pass with fuel must have run to drop the neutral constant (`multiOf 1` and `multiOf 2` of `[.any, a]`
    are `.multi [.any, a]`) -/
theorem ofB_atomic (b : Bool) (fuel : Nat) (ms : List M) (hs : AllAtomic ms) :
    FlatNF b (ofB b (fuel + 3) ms) :=
  (ofB_flatNF b (fuel + 2) ms (loopB_atomic b fuel _ fun y hy => hs y (mem_flatten_atomic _ _ _ hs hy))).1

theorem multiOf_flat (fuel : Nat) (ms : List M) (hs : AllSingle ms) : FlatNF true (multiOf (fuel + 1) ms) :=
  ofB_kept true fuel ms (hs.kept _)

theorem unionOfList_flat (fuel : Nat) (ms : List M) (hs : AllSingle ms) : FlatNF false (unionOfList (fuel + 1) ms) :=
  ofB_kept false fuel ms (hs.kept _)

theorem nodup_pair {p q : M} (hpq : beq p q = false) : NoDup [p, q] := ⟨by simp [memB, hpq], rfl, trivial⟩

theorem flatten_pair (b : Bool) (fuel : Nat) (p q : M) (hp : p.isSingle = true) (hq : q.isSingle = true)
    (hpq : beq p q = false) : flattenInto b fuel [p, q] [] = [p, q] :=
  mk_flat b fuel [p, q] (forall_mem_pair hp hq) (nodup_pair hpq)

theorem op_single_shape (b : Bool) (fuel : Nat) (x y : M) (hx : x.isSingle = true) (hy : y.isSingle = true) :
    (∃ m, singleB b x y = .done m ∧ opB b (fuel + 1) x y = m) ∨
    (∃ p q, singleB b x y = .pair p q ∧ opB b (fuel + 1) x y = junction b [p, q] ∧ beq p q = false ∧
      p.isSingle = true ∧ q.isSingle = true) := by
  have hs := singleB_shaped b x y hx hy
  rw [opB_singles b _ hx hy]
  generalize singleB b x y = r at hs ⊢
  cases r with
  | done m => exact Or.inl ⟨m, rfl, rfl⟩
  | pair p q =>
    obtain ⟨hpq, hp, hq⟩ := hs
    exact Or.inr ⟨p, q, rfl, (mkB_eq b _ _).trans (congrArg _ (flatten_pair b fuel p q hp hq hpq)), hpq, hp, hq⟩

theorem and_single_shape (fuel : Nat) (a b : M) (ha : a.isSingle = true) (hb : b.isSingle = true) :
    (∃ m, singleAnd a b = .done m ∧ M.and (fuel + 2) a b = m) ∨
    (∃ p q, singleAnd a b = .pair p q ∧ M.and (fuel + 2) a b = .multi [p, q] ∧ beq p q = false ∧
      p.isSingle = true ∧ q.isSingle = true) :=
  op_single_shape true (fuel + 1) a b ha hb

theorem or_single_shape (fuel : Nat) (a b : M) (ha : a.isSingle = true) (hb : b.isSingle = true) :
    (∃ m, singleOr a b = .done m ∧ M.or (fuel + 2) a b = m) ∨
    (∃ p q, singleOr a b = .pair p q ∧ M.or (fuel + 2) a b = .union [p, q] ∧ beq p q = false ∧
      p.isSingle = true ∧ q.isSingle = true) :=
  op_single_shape false (fuel + 1) a b ha hb

theorem product_singletons : ∀ (l : List M), product (l.map fun x => [x]) = [l]
  | [] => rfl
  | x :: xs => by simp [product, product_singletons xs]

theorem map_nf_singles (b : Bool) (f : Nat) (l : List M) (hl : AllSingle l) :
    (l.map (nfB b f)).map (childrenB b) = l.map fun x => [x] := by
  rw [List.map_map]
  refine List.map_congr_left fun x hx => ?_
  have hs := hl x hx
  rw [Function.comp_apply, nfB_leaf b f x (single_not_junction true hs) (single_not_junction false hs),
    childrenB_other b x (single_not_junction b hs)]

theorem nfB_flat (b : Bool) (g : Nat) (l : List M) (hs : AllSingle l) :
    nfB b (g + 1) (junction (!b) l) = ofB b g [ofB (!b) g l] := by
  rw [nfB_other, map_nf_singles b g l hs, product_singletons]; rfl

theorem passB_one (b : Bool) (n : Nat) (r : M) (hn : isNeut b r = false) : passB b (n + 1) [r] = some [r] := by
  rw [passB_succ]
  simp only [List.foldl_cons, List.foldl_nil, passStep, memB, List.any_nil, ite_isNeut, scan, List.nil_append, hn]
  rfl

theorem loopB_fix (b : Bool) : ∀ (n : Nat) (l : List M), loopB b n l l = some l
  | 0, l => loopB_zero b l l
  | n + 1, l => by rw [loopB_succ, if_pos (M.beqList_refl l)]

/-- `+ 3`: one for `of`, one for the loop's first iteration, one for its pass to run at all -/
theorem ofB_one (b : Bool) (f : Nat) (r : M) (hr : isJunction b r = false) : ofB b (f + 3) [r] = r := by
  by_cases hn : isNeut b r = true
  · -- the pass drops the neutral constant, the next pass is over the empty list: by computation
    obtain rfl := (isNeut_iff b r).1 hn
    cases b <;> cases f <;> rfl
  · have hflat : flattenInto b (f + 2) [r] [] = [r] :=
      flatten_plain b _ [r] [] fun x hx => List.mem_singleton.1 hx ▸ hr
    rw [ofB_succ, hflat, loopB_succ, if_neg (by simp [beqList]), passB_one b _ r (Bool.eq_false_iff.2 hn)]
    simp only
    rw [loopB_fix]
    simp only [List.any_cons, List.any_nil, Bool.or_false]
    by_cases ha : isAbs b r = true
    · rw [if_pos ha]; exact ((isAbs_iff b r).1 ha).symm
    · rw [if_neg ha]

def FlatConj (m : M) : Prop := m.isSingle = true ∨ ∃ l, m = .multi l ∧ AllSingle l
def FlatDisj (m : M) : Prop := m.isSingle = true ∨ ∃ l, m = .union l ∧ AllSingle l

def FlatJ (b : Bool) (m : M) : Prop := m.isSingle = true ∨ ∃ l, m = junction b l ∧ AllSingle l

theorem flatJ_conj {m : M} : FlatJ true m ↔ FlatConj m := Iff.rfl
theorem flatJ_disj {m : M} : FlatJ false m ↔ FlatDisj m := Iff.rfl

theorem flatNF_not_other (b : Bool) (r : M) (h : FlatNF b r) : isJunction (!b) r = false := by
  rcases (flatNF_iff b r).1 h with h | ⟨l, rfl, _⟩
  · exact atomic_not_junction _ h
  · cases b <;> rfl

theorem flatten_flatJ (b : Bool) (g : Nat) (items : List M) (hi : ∀ x ∈ items, FlatJ b x) :
    AllSingle (flattenInto b (g + 1) items []) := by
  intro y hy
  rw [flattenInto_eq] at hy
  rcases mem_splice_succ ((mem_foldl_addNew _ [] hy).resolve_left (by simp)) with ⟨hy, hj⟩ | ⟨ms, hms, hy⟩
  · rcases hi y hy with hs | ⟨l, rfl, _⟩
    · exact hs
    · rw [(isJunction_iff b _).2 ⟨l, rfl⟩] at hj; cases hj
  · rcases hi _ hms with hs | ⟨l, he, hl⟩
    · cases b <;> cases hs
    · obtain rfl : ms = l := by cases b <;> injection he
      exact hl y (mem_flatten_atomic b g ms hl.atomic hy)

/-- `+ 5`: one for `intersection` to call `dnf`, one for `dnf` to call `of`, and the 3 of `ofB_one` -/
theorem intersection_flat (f : Nat) (a b : M) (ha : FlatJ true a) (hb : FlatJ true b) :
    FlatNF true (intersection (f + 5) [a, b]) := by
  have hL := flatten_flatJ true (f + 3) [a, b] (forall_mem_pair ha hb)
  have hr := multiOf_flat (f + 2) _ hL
  simp only [intersection, mkMulti]
  rw [show dnf (f + 4) (.multi _) = unionOfList (f + 3) [multiOf (f + 3) _] from nfB_flat false (f + 3) _ hL,
    show unionOfList (f + 3) [_] = _ from ofB_one false f _ (flatNF_not_other true _ hr)]
  exact hr

theorem unwrap_union (k : Nat) (l : List M) (hl : AllSingle l) :
    unwrapSingletons (k + 1) (.union l) = .union l ∨ ∃ x, l = [x] ∧ unwrapSingletons (k + 1) (.union l) = x := by
  match l, hl with
  | [], _ => left; rfl
  | [x], hl =>
    right
    refine ⟨x, rfl, ?_⟩
    have hx := hl x (List.mem_cons_self ..)
    cases k <;> cases x <;> first | exact Bool.noConfusion hx | rfl
  | _ :: _ :: _, _ => left; rfl

theorem flatJ_not_const (b : Bool) {x : M} (h : FlatJ b x) : isNeut b x = false ∧ isAbs b x = false := by
  rcases h with h | ⟨l, rfl, _⟩
  · exact single_not_const b h
  · cases b <;> exact ⟨rfl, rfl⟩

theorem unionOf_flat (f : Nat) (a b : M) (ha : FlatJ false a) (hb : FlatJ false b) :
    FlatNF false (unionOf (f + 5) [a, b]) := by
  have hae : a.isEmpty = false := (flatJ_not_const false ha).1
  have hbe : b.isEmpty = false := (flatJ_not_const false hb).1
  simp only [unionOf, List.filter_cons, List.filter_nil, hae, hbe, Bool.not_false, if_true, mkUnion]
  have hL := flatten_flatJ false (f + 3) [a, b] (forall_mem_pair ha hb)
  generalize flattenInto false (f + 3 + 1) [a, b] [] = L at hL
  have hr := unionOfList_flat (f + 2) L hL
  have hnm : (unionOfList (f + 3) L).isMulti = false := flatNF_not_other false _ hr
  -- whether or not a one-member union was unwrapped, its `cnf` is `MarkerUnion.of` of the members
  have hc : cnf (f + 4) (unwrapSingletons (f + 4 + 1) (.union L)) = unionOfList (f + 3) L := by
    rcases unwrap_union (f + 4) L hL with hu | ⟨x, rfl, hu⟩ <;> rw [hu]
    · exact (nfB_flat true (f + 3) L hL).trans (ofB_one true f _ hnm)
    · have hx := hL x (List.mem_cons_self ..)
      exact (nfB_leaf true (f + 4) x (single_not_junction true hx) (single_not_junction false hx)).trans
        (ofB_one false f x (single_not_junction false hx)).symm
  rw [hc]
  simp only [hnm, Bool.not_false, if_true]
  exact hr

theorem interB_flat : ∀ (b : Bool) (f : Nat) (x y : M), FlatJ b x → FlatJ b y → FlatNF b (interB b (f + 5) [x, y])
  | true => intersection_flat
  | false => unionOf_flat

/-- `+ 6`: one for `&` / `|` to call `intersection` / `union()`, and the 5 of `interB_flat` -/
theorem op_flat (b : Bool) (f : Nat) (x y : M) (hx : FlatJ b x) (hy : FlatJ b y) : FlatNF b (opB b (f + 6) x y) := by
  rcases hx with sx | ⟨lx, rfl, hlx⟩
  · rcases hy with sy | ⟨ly, rfl, hly⟩
    · rcases op_single_shape b (f + 5) x y sx sy with ⟨m, hs, hm⟩ | ⟨p, q, _, hm, hpq, hp, hq⟩
      · have := singleB_shaped b x y sx sy
        rw [hs] at this
        rw [hm]; exact atomic_flatNF b m this
      · rw [hm]
        exact (flatNF_iff _ _).2 (Or.inr ⟨[p, q], rfl, Nat.le_refl 2, nodup_pair hpq, forall_mem_pair hp hq⟩)
    · -- single with compound: the reflected operator of the compound
      rw [opB_single_compound b _ sx ⟨b, ly, rfl⟩]
      exact interB_flat b f _ x (Or.inr ⟨ly, rfl, hly⟩) (Or.inl sx)
  · rw [opB_compound b _ y ⟨b, lx, rfl⟩]
    exact interB_flat b f _ y (Or.inr ⟨lx, rfl, hlx⟩) hy

theorem and_flat (f : Nat) (a b : M) (ha : FlatConj a) (hb : FlatConj b) : FlatNF true (M.and (f + 6) a b) :=
  op_flat true f a b (flatJ_conj.2 ha) (flatJ_conj.2 hb)
theorem or_flat (f : Nat) (a b : M) (ha : FlatDisj a) (hb : FlatDisj b) : FlatNF false (M.or (f + 6) a b) :=
  op_flat false f a b (flatJ_disj.2 ha) (flatJ_disj.2 hb)

theorem exclude_kept {f : Nat} {c : M} {name : String} (hc : Atomic c)
    (hg : (c.isSingle && c.singleName? == some name) = false) : exclude f c name = c := by
  rcases hc with rfl | rfl | hc
  · cases f <;> rfl
  · cases f <;> rfl
  · rw [hc, Bool.true_and] at hg
    cases f with
    | zero => rfl
    | succ n => rw [exclude_single_eq n name c hc, if_neg (by simp [hg])]

theorem exclude_flat_junction (b : Bool) (f : Nat) (l : List M) (name : String) (hl : AllSingle l) :
    FlatNF b (exclude (f + 2) (junction b l) name) := by
  rw [exclude_junction]
  exact ite_both (Or.inr (Or.inl rfl)) (ofB_kept b f _ (forall_mem_keptB fun c hc hg =>
    (exclude_kept (.of_single (hl c hc)) hg).symm ▸ .of_single b (hl c hc)))

theorem exclude_flat_multi (f : Nat) (l : List M) (name : String) (hl : AllSingle l) :
    FlatNF true (exclude (f + 2) (.multi l) name) :=
  exclude_flat_junction true f l name hl

theorem exclude_flat_union (f : Nat) (l : List M) (name : String) (hl : AllSingle l) :
    FlatNF false (exclude (f + 2) (.union l) name) :=
  exclude_flat_junction false f l name hl

/-! non-vacuity -/

def atomA : M := .expr ⟨"os_name", .eq, "a", false, .gen ⟨.eq, "a"⟩⟩
def atomB : M := .expr ⟨"sys_platform", .ne, "b", false, .gen ⟨.ne, "b"⟩⟩
def atomC : M := .expr ⟨"platform_machine", .eq, "c", false, .gen ⟨.eq, "c"⟩⟩

example : FlatConj (.multi [atomA, atomB]) ∧ FlatConj atomC :=
  ⟨Or.inr ⟨_, rfl, by intro x hx; simp at hx; rcases hx with rfl | rfl <;> rfl⟩, Or.inl rfl⟩

example : beq (M.and 8 (.multi [atomA, atomB]) atomC) (.multi [atomA, atomB, atomC]) = true := by decide +kernel
example : beq (M.or 8 (.union [atomA, atomB]) atomC) (.union [atomA, atomB, atomC]) = true := by decide +kernel
example : beq (M.and 8 (.multi [atomA, atomB]) atomA) (.multi [atomA, atomB]) = true := by decide +kernel

end C15
end DepLogic

