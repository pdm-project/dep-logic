import DepLogic.Properties.C02
/-
  C12 — `only()` / `exclude()` / `without_extras()` eliminate variables soundly.

  * `only_implied`      : every environment satisfying `m` satisfies `m.only(names)`
  * `only_same`         : if `m` mentions only `names`, the meaning is unchanged
  * `only_mentions`     : the result mentions no variable outside `names`
  * `exclude_mentions`  : the result of `m.exclude(name)` does not mention `name`
  * `exclude_implied`   : if `m` does not mention `name`, everything satisfying `m` satisfies the result
  * `exclude_same_partial` : if `m` does not mention `name` and nothing vanishes on re-normalisation
                          (`NoVanish`; needed: `exclude_same_needs_noVanish`), the meaning is unchanged
  (`without_extras()` is `exclude("extra")` in every marker class.)
  The clauses about meaning hold for every fuel; the two `_mentions` clauses need the fuel to cover the depth of
  `m`.  Same hypotheses on atoms and environment as C02.
-/
namespace DepLogic
namespace C12
open M

/-- a single marker is on a variable satisfying `P` (of a marker as a whole: `GAll (NameIn P)`) -/
def NameIn (P : String → Prop) : M → Prop := fun s => ∀ n, s.singleName? = some n → P n

theorem nameIn_single (P : String → Prop) (x : M) (hx : x.isSingle = true) : GAll (NameIn P) x ↔ NameIn P x :=
  GAll_single (NameIn P) x hx

theorem namedAfter_names (P : String → Prop) {x y m : M} (hx : NameIn P x) (hy : NameIn P y)
    (h : NamedAfter x y m) : GAll (NameIn P) m := by
  rcases h with rfl | rfl | ⟨hs, hn⟩
  · trivial
  · trivial
  · refine (GAll_single _ m hs).2 fun k hk => ?_
    rcases hn with e | e <;> rw [e] at hk
    · exact hx k hk
    · exact hy k hk

theorem GAllL_mono (G1 G2 : M → Prop) (h : ∀ s, G1 s → G2 s) : ∀ (ms : List M), GAllL G1 ms → GAllL G2 ms :=
  fun ms hm => GAllL_imp₂ (fun s h1 _ => h s h1) ms hm hm

/-- a sound single-marker layer, whatever it asks of the markers, stays sound when the variables are tracked as well:
    what `&` / `|` answers is a constant or on the variable of an operand (`singleB_answers`) -/
theorem tracked {env : Env} {G : M → Prop} (hS : SingleSound env G) (P : String → Prop) :
    SingleSound env (fun s => G s ∧ NameIn P s) where
  and_ok := both true
  or_ok := both false
where
  both (b : Bool) (x y : M) (sx : x.isSingle = true) (sy : y.isSingle = true) (gx : G x ∧ NameIn P x) (gy : G y ∧ NameIn P y) :
      match singleB b x y with
      | .done m => GAll (fun s => G s ∧ NameIn P s) m ∧ sem env m = bop b (sem env x) (sem env y)
      | .pair p q => (p = x ∧ q = y) ∨ (p = y ∧ q = x) := by
    have h1 := hS.ok b x y sx sy gx.1 gy.1
    have h2 := singleB_answers b x y sx sy
    generalize singleB b x y = r at h1 h2 ⊢
    cases r with
    | done m => exact ⟨GAll_imp₂ (fun _ => And.intro) m h1.1 (namedAfter_names P gx.2 gy.2 h2), h1.2⟩
    | pair p q => exact h1

theorem singleSound_names (env : Env) (he : EnvTotal env) (hF : FromSpecOk env) (hP : PyMergeOk env)
    (P : String → Prop) : SingleSound env (fun s => Good env s ∧ NameIn P s) :=
  tracked (singleSound env he hF hP) P

/-! ### nesting depth (the fuel a traversal needs) -/

mutual
def depth : M → Nat
  | .multi ms | .union ms => depthL ms + 1
  | _ => 1
def depthL : List M → Nat
  | [] => 0
  | m :: ms => max (depth m) (depthL ms)
end

theorem depthL_le (ms : List M) (n : Nat) : depthL ms ≤ n ↔ ∀ m ∈ ms, depth m ≤ n := by
  induction ms with
  | nil => simp [depthL]
  | cons m ms ih => simp [depthL, Nat.max_le, ih]

/-- `fuelOk`: the fuel covers the depth of `m` -/
structure OnlyOk (env : Env) (names : List String) (m r : M) (fuelOk : Prop) : Prop where
  good : GAll (Good env) r
  implied : sem env m = true → sem env r = true
  same : GAll (NameIn (· ∈ names)) m → sem env r = sem env m
  mentions : fuelOk → GAll (NameIn (· ∈ names)) r

theorem depth_members {b : Bool} {ms : List M} {fuel : Nat} (h : depth (junction b ms) ≤ fuel + 1) :
    ∀ c ∈ ms, depth c ≤ fuel :=
  (depthL_le ms fuel).1 (Nat.le_of_succ_le_succ (by cases b <;> exact h))

/-! From here on the single-marker layer is used through `SingleSound` alone. -/

section
variable {env : Env} {G : M → Prop} (hS : SingleSound env G)
include hS

/-- the engine run once more, tracking the variables -/
theorem of_names (P : String → Prop) (b : Bool) (fuel : Nat) {l : List M} (k1 : GAllL G l)
    (k2 : GAllL (NameIn P) l) : GAll (NameIn P) (ofB b fuel l) :=
  have R := ((soundB_all (tracked hS P) fuel).of b ⟨GAllL_imp₂ (fun _ => And.intro) l k1 k2, rfl⟩).1
  GAll_imp₂ (fun _ hs _ => hs.2) _ R R

end

section
variable {env : Env} (hS : SingleSound env (Good env))
include hS

theorem only_ok (names : List String) : ∀ (fuel : Nat) (m : M), GAll (Good env) m →
    OnlyOk env names m (only fuel m names) (depth m ≤ fuel) := by
  intro fuel
  induction fuel with
  | zero =>
    intro m hm
    refine ⟨by simpa [only] using hm, by simp [only], by simp [only], ?_⟩
    intro h; cases m <;> simp [depth] at h
  | succ fuel ih =>
    intro m hm
    let P : String → Prop := (· ∈ names)
    -- a compound is rebuilt from its members' `only`, by `MultiMarker.of` / `MarkerUnion.of`
    have comp : ∀ b ms, GAll (Good env) (junction b ms) →
        OnlyOk env names (junction b ms) (only (fuel + 1) (junction b ms) names) (depth (junction b ms) ≤ fuel + 1) := by
      intro b ms hm
      have hms := hm.members
      have k1 : GAllL (Good env) (ms.map fun c => only fuel c names) :=
        map_G _ _ _ fun c hc => (ih c (hms c hc)).good
      have R := (soundB_all hS fuel).of b ⟨k1, rfl⟩
      rw [only_junction]
      refine ⟨R.1, ?_, ?_, ?_⟩
      · intro h
        rw [sem_junction] at h
        rw [R.2]
        exact agg_mono env b _ ms (fun c hc => (ih c (hms c hc)).implied) h
      · intro hn
        rw [R.2, sem_junction]
        exact agg_map_same env b _ ms fun c hc => (ih c (hms c hc)).same (hn.members c hc)
      · exact fun hd => of_names hS P b fuel k1
          (map_G _ _ _ fun c hc => (ih c (hms c hc)).mentions (depth_members hd c hc))
    rcases kind_cases true m with rfl | rfl | hs | ⟨b, ms, rfl⟩
    · exact ⟨trivial, id, fun _ => rfl, fun _ => trivial⟩
    · exact ⟨trivial, id, fun _ => rfl, fun _ => trivial⟩
    · -- a single marker is kept if its variable is wanted and becomes `AnyMarker` otherwise
      obtain ⟨n, hn, e⟩ := only_single_eq fuel names m hs
      rw [e]
      by_cases hc : names.contains n = true
      · rw [if_pos hc]
        exact ⟨hm, id, fun _ => rfl, fun _ => (GAll_single _ m hs).2 fun k hk => by
          rw [hn] at hk; cases hk; simpa using hc⟩
      · rw [if_neg hc]
        exact ⟨trivial, fun _ => rfl, fun hn' => absurd ((GAll_single _ m hs).1 hn' n hn) (by simpa using hc),
          fun _ => trivial⟩
    · exact comp b ms hm

end
/-- `exclude` silently drops a conjunct whose own exclusion collapsed to `EmptyMarker`, and turns
    a union with nothing left into `AnyMarker`.  This predicate says that neither happens; it is a theorem for
    the shapes of C12Flat (`noVanish_dnf`, `noVanish_cnf`). -/
def NoVanish : Nat → M → String → Prop
  | 0, _, _ => True
  | fuel + 1, .multi ms, name =>
      ∀ c ∈ ms, (exclude fuel c name).isEmpty = false ∧ NoVanish fuel c name
  | fuel + 1, .union ms, name => ms ≠ [] ∧ ∀ c ∈ ms, NoVanish fuel c name
  | _ + 1, _, _ => True

theorem exclude_test_false (name : String) (c : M) (h : GAll (NameIn (· ≠ name)) c) :
    (c.isSingle && c.singleName? == some name) = false := by
  cases c <;> simp [isSingle, singleName?] <;>
    (simp only [GAll, NameIn, singleName?, Option.some.injEq] at h; exact h _ rfl)

/-- `stable`: `NoVanish` -/
structure ExclOk (env : Env) (name : String) (m r : M) (fuelOk stable : Prop) : Prop where
  good : GAll (Good env) r
  mentions : fuelOk → GAll (NameIn (· ≠ name)) r
  implied : GAll (NameIn (· ≠ name)) m → sem env m = true → sem env r = true
  same : GAll (NameIn (· ≠ name)) m → stable → sem env r = sem env m

section
variable {env : Env} (hS : SingleSound env (Good env))
include hS

theorem exclude_ok (name : String) : ∀ (fuel : Nat) (m : M), GAll (Good env) m →
    ExclOk env name m (exclude fuel m name) (depth m ≤ fuel) (NoVanish fuel m name) := by
  intro fuel
  induction fuel with
  | zero =>
    intro m hm
    refine ⟨by simpa [exclude] using hm, ?_, by simp [exclude], by simp [exclude]⟩
    intro h; cases m <;> simp [depth] at h
  | succ fuel ih =>
    intro m hm
    let P : String → Prop := (· ≠ name)
    -- a compound is rebuilt, by `MultiMarker.of` / `MarkerUnion.of`, from what `keptB` keeps of its members' exclusions
    have comp : ∀ (b : Bool) (ms : List M), GAll (Good env) (junction b ms) →
        ExclOk env name (junction b ms) (exclude (fuel + 1) (junction b ms) name) (depth (junction b ms) ≤ fuel + 1)
          (NoVanish (fuel + 1) (junction b ms) name) := by
      intro b ms hm
      have hms := hm.members
      have k1 : GAllL (Good env) (keptB b fuel name ms) :=
        (GAllL_iff _ _).2 (forall_mem_keptB fun c hc _ => (ih c (hms c hc)).good)
      have R := (soundB_all hS fuel).of b ⟨k1, rfl⟩
      -- every member is kept when none mentions `name` and, in a conjunction, none vanishes
      have e : GAll (NameIn P) (junction b ms) → (∀ c ∈ ms, (b && (exclude fuel c name).isEmpty) = false) →
          keptB b fuel name ms = ms.map fun c => exclude fuel c name := fun hn hv =>
        keptB_eq_map fun c hc => ⟨exclude_test_false name c (hn.members c hc), hv c hc⟩
      have nv : NoVanish (fuel + 1) (junction b ms) name →
          (b = false → ms ≠ []) ∧ ∀ c ∈ ms, (b && (exclude fuel c name).isEmpty) = false ∧ NoVanish fuel c name := by
        cases b
        · exact fun h => ⟨fun _ => h.1, fun c hc => ⟨rfl, h.2 c hc⟩⟩
        · exact fun h => ⟨nofun, h⟩
      rw [exclude_junction]
      by_cases hemp : (!b && (keptB b fuel name ms).isEmpty) = true
      · -- a disjunction with nothing left
        rw [if_pos hemp]
        refine ⟨trivial, fun _ => trivial, fun _ _ => rfl, fun hn hst => ?_⟩
        obtain ⟨hb, hk⟩ := Bool.and_eq_true_iff.1 hemp
        obtain ⟨h1, h2⟩ := nv hst
        rw [e hn fun c hc => (h2 c hc).1] at hk
        exact absurd (List.map_eq_nil_iff.1 (List.isEmpty_iff.1 hk)) (h1 (by simpa using hb))
      rw [if_neg hemp]
      refine ⟨R.1, fun hd => ?_, fun hn h => ?_, fun hn hst => ?_⟩
      · exact of_names hS P b fuel k1 ((GAllL_iff _ _).2
          (forall_mem_keptB fun c hc _ => (ih c (hms c hc)).mentions (depth_members hd c hc)))
      · rw [sem_junction] at h
        rw [R.2]
        cases b
        · -- a disjunction that does not mention `name` keeps every member
          rw [e hn fun _ _ => rfl]
          exact agg_mono env false _ ms (fun c hc => (ih c (hms c hc)).implied (hn.members c hc)) h
        · -- of a conjunction: what is kept are members' exclusions
          exact List.all_eq_true.2
            (forall_mem_keptB fun c hc _ => (ih c (hms c hc)).implied (hn.members c hc) (List.all_eq_true.1 h c hc))
      · obtain ⟨_, h2⟩ := nv hst
        rw [R.2, e hn fun c hc => (h2 c hc).1, sem_junction]
        exact agg_map_same env b _ ms fun c hc => (ih c (hms c hc)).same (hn.members c hc) (h2 c hc).2
    rcases kind_cases true m with rfl | rfl | hs | ⟨b, ms, rfl⟩
    · exact ⟨trivial, fun _ => trivial, fun _ => id, fun _ _ => rfl⟩
    · exact ⟨trivial, fun _ => trivial, fun _ => id, fun _ _ => rfl⟩
    · -- a single marker on the excluded variable becomes `AnyMarker`, any other is kept
      rw [exclude_single_eq fuel name m hs]
      by_cases hc : (m.singleName? == some name) = true
      · rw [if_pos hc]
        exact ⟨trivial, fun _ => trivial, fun _ _ => rfl, fun hn => absurd rfl
          ((GAll_single _ m hs).1 hn name (by simpa using hc))⟩
      · rw [if_neg hc]
        exact ⟨hm, fun _ => (GAll_single _ m hs).2 fun k hk e => hc (by rw [hk, e]; simp), fun _ => id, fun _ _ => rfl⟩
    · exact comp b ms hm

end

section
variable (env : Env) (he : EnvTotal env) (hF : FromSpecOk env) (hP : PyMergeOk env)
include he hF hP

theorem only_mentions (names : List String) (fuel : Nat) (m : M) (hm : GAll (Good env) m)
    (hfuel : depth m ≤ fuel) : GAll (NameIn (· ∈ names)) (only fuel m names) :=
  (only_ok (singleSound env he hF hP) names fuel m hm).mentions hfuel

theorem only_implied (names : List String) (fuel : Nat) (m : M) (hm : GAll (Good env) m)
    (h : sem env m = true) : sem env (only fuel m names) = true :=
  (only_ok (singleSound env he hF hP) names fuel m hm).implied h

theorem only_same (names : List String) (fuel : Nat) (m : M) (hm : GAll (Good env) m)
    (hn : GAll (NameIn (· ∈ names)) m) : sem env (only fuel m names) = sem env m :=
  (only_ok (singleSound env he hF hP) names fuel m hm).same hn

theorem exclude_mentions (name : String) (fuel : Nat) (m : M) (hm : GAll (Good env) m)
    (hfuel : depth m ≤ fuel) : GAll (NameIn (· ≠ name)) (exclude fuel m name) :=
  (exclude_ok (singleSound env he hF hP) name fuel m hm).mentions hfuel

theorem exclude_implied (name : String) (fuel : Nat) (m : M) (hm : GAll (Good env) m)
    (hn : GAll (NameIn (· ≠ name)) m) (h : sem env m = true) : sem env (exclude fuel m name) = true :=
  (exclude_ok (singleSound env he hF hP) name fuel m hm).implied hn h

/-- PARTIAL: the `NoVanish` hypothesis (a theorem for the shapes of C12Flat) is needed, see
    `exclude_same_needs_noVanish` -/
theorem exclude_same_partial (name : String) (fuel : Nat) (m : M) (hm : GAll (Good env) m)
    (hn : GAll (NameIn (· ≠ name)) m) (hs : NoVanish fuel m name) :
    sem env (exclude fuel m name) = sem env m :=
  (exclude_ok (singleSound env he hF hP) name fuel m hm).same hn hs

end

/-! ### with the bridge facts proved (C02.bridge): no assumption beyond `EnvTotal` and good atoms -/

theorem only_final (env : Env) (he : EnvTotal env) (names : List String) (fuel : Nat) (m : M) (hm : GAll (Good env) m) :
    (depth m ≤ fuel → GAll (NameIn (· ∈ names)) (only fuel m names)) ∧
    (sem env m = true → sem env (only fuel m names) = true) ∧
    (GAll (NameIn (· ∈ names)) m → sem env (only fuel m names) = sem env m) :=
  let o := only_ok (singleSound env he (C02.bridge env he).1 (C02.bridge env he).2) names fuel m hm
  ⟨o.mentions, o.implied, o.same⟩

theorem exclude_final (env : Env) (he : EnvTotal env) (name : String) (fuel : Nat) (m : M) (hm : GAll (Good env) m) :
    (depth m ≤ fuel → GAll (NameIn (· ≠ name)) (exclude fuel m name)) ∧
    (GAll (NameIn (· ≠ name)) m → sem env m = true → sem env (exclude fuel m name) = true) ∧
    (GAll (NameIn (· ≠ name)) m → NoVanish fuel m name → sem env (exclude fuel m name) = sem env m) :=
  let o := exclude_ok (singleSound env he (C02.bridge env he).1 (C02.bridge env he).2) name fuel m hm
  ⟨o.mentions, o.implied, o.same⟩

/-- without `NoVanish` the statement is false of the code's algorithm: on the (unreachable,
    not-in-normal-form) marker `os_name == "a" and (<empty> or <empty>)` the conjunct that
    re-normalises to `EmptyMarker` is dropped.  Replayed on the implementation by the harness
    (the first case of the raw-constructor stream `C12.raw`): same result there. -/
theorem exclude_same_needs_noVanish :
    let m : M := .multi [.eqU "os_name" ["a"], .union [.empty, .empty]]
    let env : Env := fun n => if n = "os_name" then some (.str "a") else none
    GAll (NameIn (· ≠ "extra")) m ∧ sem env m = false ∧ sem env (exclude 5 m "extra") = true := by
  refine ⟨?_, by decide +kernel, by decide +kernel⟩
  simp [GAll, GAllL, NameIn, singleName?]

/-- `depth ≤ fuel` holds of a marker that mentions `extra`, `NoVanish` of the conjunction its exclusion leaves -/
example : let m : M := .multi [.eqU "os_name" ["a"], .union [.neM "sys_platform" ["x"], .eqU "extra" ["t"]]]
    depth m ≤ 3 ∧ NoVanish 3 (.multi [.eqU "os_name" ["a"], .neM "sys_platform" ["x"]]) "extra" := by
  refine ⟨by decide +kernel, ?_⟩
  simp only [NoVanish, List.mem_cons, List.mem_nil_iff, or_false]
  rintro c (rfl | rfl) <;> exact ⟨by decide +kernel, trivial⟩

end C12
end DepLogic
