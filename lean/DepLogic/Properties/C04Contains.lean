import DepLogic.Proofs.TextInv
import DepLogic.Properties.C04
import DepLogic.Properties.C05
/-
  C04, the `contains()` path — `RangeSpecifier.contains` / `UnionSpecifier.contains` render the
  object and ask packaging (`SpecifierSet(str(self)).contains(v)`).  For every nice object
  (`C06.Nice`: what the operators build from parsed leaves) and every final release `v`, that
  answer is the structural membership read from the bounds (`Spec.mem`): `contains_exact`, from
  C06's round trip (the rendered clauses re-parse to an `==` object) and C04's leaf theorem (a
  clause matches `v` iff `v` is inside the bounds built from it).  Without niceness this is false:
  in known finding D4a the rendered text admits what the bounds exclude.
-/
namespace DepLogic
namespace C04
open LinPre Spec C06

theorem allMatch_fss (v : Ver) (hv : v.isFinal = true) : ∀ (cs : List (Clause Ver)) (acc s : Spec Ver),
    fssFrom acc cs = some s →
    cs.foldl (fun acc c => acc.bind fun a => (Pep440.matchesFinal c v).map fun b => a && b) (some (decide (acc.mem v))) =
      some (decide (s.mem v))
  | [], acc, s, h => by cases h; rfl
  | c :: rest, acc, s, h => by
    rw [fssFrom_cons, Option.bind_eq_some_iff] at h
    obtain ⟨sc, hfc, h⟩ := h
    rw [List.foldl_cons, Option.bind_some, matches_eq c v (.inl hv) sc hfc, Option.map_some,
      ← allMatch_fss v hv rest _ s h, ← Bool.decide_and, decide_eq_decide.2 (Spec.and_mem acc sc v)]

theorem range_contains_exact (r : Range Ver) (v : Ver) (hv : v.isFinal = true)
    (hrt : RoundTrips (.range r)) : r.containsFinal v = some (decide (r.mem v)) := by
  obtain ⟨s', hparse, hb, _⟩ := hrt
  simp only [Spec.str, parse_one_alt] at hparse
  have h := allMatch_fss v hv r.strClauses (.range {}) s' hparse
  rw [decide_eq_true (show (Spec.range ({} : Range Ver)).mem v from ⟨trivial, trivial⟩)] at h
  exact h.trans (congrArg some (decide_eq_decide.2 (C05.eq_sound s' (.range r) hb v)))

theorem fold_or_contains (v : Ver) : ∀ (rs : List (Range Ver)) (acc : Bool),
    (∀ r ∈ rs, r.containsFinal v = some (decide (r.mem v))) →
    rs.foldl (fun acc r => acc.bind fun a => (r.containsFinal v).map fun b => a || b) (some acc) =
      some (acc || decide (∃ r ∈ rs, r.mem v))
  | [], acc, _ => by simp
  | r :: rest, acc, h => by
    simp only [List.foldl_cons, Option.bind_some, h r (by simp), Option.map_some]
    rw [fold_or_contains v rest _ (fun x hx => h x (by simp [hx]))]
    refine congrArg some ?_
    rw [Bool.eq_iff_iff]
    simp only [Bool.or_eq_true, decide_eq_true_iff, List.mem_cons, exists_eq_or_imp]
    exact or_assoc

/-- **`v in result` / `result.contains(v)` (rendering, then packaging's matching) is structural membership** for every
    nice object and every final release -/
theorem contains_exact (s : Spec Ver) (hn : Nice s) (v : Ver) (hv : v.isFinal = true) :
    s.containsFinal v = some (decide (s.mem v)) := by
  cases s with
  | empty => rfl
  | any => rfl
  | range r =>
    exact range_contains_exact r v hv (nice_roundtrips _ hn)
  | union rs t =>
    have hr : ∀ r ∈ rs, r.containsFinal v = some (decide (r.mem v)) := by
      intro r hrm
      apply range_contains_exact r v hv
      exact range_roundtrip r (hn.canon.2.1 r hrm) (hn.text.1 r hrm)
        (noD4a_of_allVers r ((allVers_of_boundsIn FinalV _ hn.finalBounds).1 r hrm))
    simp only [Spec.containsFinal, Spec.mem]
    rw [fold_or_contains v rs false hr]
    simp

end C04
end DepLogic
