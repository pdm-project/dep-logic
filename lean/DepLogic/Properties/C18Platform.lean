import DepLogic.Properties.C18
/-
  C18, second half — `Platform.parse(str(p)) == p` for the documented platform families:
  manylinux_X_Y_arch, musllinux_X_Y_arch, macos_X_Y_arch (arm64 for aarch64), windows_arch
  (amd64 / arm64 spellings), for EVERY X, Y — down to characters (`int(str(n)) = n`, the
  `_platform_major_minor_re` lexing, `Arch.parse`).  `family_roundtrip` covers the three numbered families, musllinux included.
-/
namespace DepLogic
namespace C18
open Lex

theorem digitsThenUnderscore_digs (n : Nat) (rest : List Char) :
    digitsThenUnderscore (digs n ++ '_' :: rest) = some (n, rest) := by
  unfold digitsThenUnderscore
  obtain ⟨h1, h2⟩ := run_then Char.isDigit (digs n) ('_' :: rest) (digs_isDigit n) (by simp)
  rw [span_eq, h1, h2]
  simp only [List.isEmpty_eq_false_iff.2 (digs_ne_nil n), Bool.false_eq_true, if_false]
  have := digitsVal_toDigits n
  simp only [digitsVal] at this
  simp only [digs, this]

theorem parseArch_str (a : Arch) : archChars a.str.toList = true ∧ parseArch a.str.toList = .ok a := by
  -- `Arch.parse` sees the name itself, not its characters put together again
  unfold parseArch
  rw [String.ofList_toList]
  cases a <;> decide +kernel

theorem parseArch_arm64 : archChars "arm64".toList = true ∧ parseArch "arm64".toList = .ok .aarch64 := by
  decide +kernel

theorem parseMajorMinor_text (mk : Nat → Nat → Os) (a b : Nat) (archText : List Char) (ar : Arch)
    (h1 : archChars archText = true) (h2 : parseArch archText = .ok ar) :
    parseMajorMinor mk (digs a ++ '_' :: (digs b ++ '_' :: archText)) = some (.ok ⟨mk a b, ar⟩) := by
  unfold parseMajorMinor
  rw [digitsThenUnderscore_digs a]
  simp only
  rw [digitsThenUnderscore_digs b]
  simp [h1, h2, Except.map]

/-- `s` is none of the names `Platform.parse` looks up before it tries the families: no alias has three underscores
    (`macos_x86_64` has two), and the one that starts with `w` has seven characters -/
theorem notAlias_of (s : String)
    (h : 3 ≤ s.toList.count '_' ∨ (s.toList.head? = some 'w' ∧ 8 ≤ s.toList.length)) :
    (s == "linux") = false ∧ (s == "windows") = false ∧ (s == "macos") = false ∧ (s == "alpine") = false ∧
      (s == "macos_arm64") = false ∧ (s == "macos_x86_64") = false := by
  refine ⟨?_, ?_, ?_, ?_, ?_, ?_⟩ <;>
    exact beq_eq_false_iff_ne.2 fun e => absurd (e ▸ h) (by decide +kernel)

/-- the numbered families, each with the prefix `__str__` prints and `Platform.parse` tests for it -/
inductive Family : String → (Nat → Nat → Os) → Prop
  | manylinux : Family "manylinux_" .manylinux
  | musllinux : Family "musllinux_" .musllinux
  | macos : Family "macos_" .macos

/-- a literal is `String.ofList` of its characters -/
theorem prefix_chars :
    "manylinux_".toList = ['m', 'a', 'n', 'y', 'l', 'i', 'n', 'u', 'x', '_'] ∧
    "musllinux_".toList = ['m', 'u', 's', 'l', 'l', 'i', 'n', 'u', 'x', '_'] ∧
    "macos_".toList = ['m', 'a', 'c', 'o', 's', '_'] ∧
    "windows_".toList = ['w', 'i', 'n', 'd', 'o', 'w', 's', '_'] :=
  ⟨String.toList_ofList, String.toList_ofList, String.toList_ofList, String.toList_ofList⟩

theorem Family.parse {pre : String} {mk : Nat → Nat → Os} (hf : Family pre mk) :
    '_' ∈ pre.toList ∧ (∀ rest, dropPrefix? "windows_".toList (pre.toList ++ rest) = none) ∧
      ∀ rest, familyRe (pre.toList ++ rest) = parseMajorMinor mk rest := by
  obtain ⟨hm, hu, hc, hw⟩ := prefix_chars
  unfold familyRe
  cases hf <;> rw [hm, hu, hc, hw] <;> exact ⟨by decide, fun _ => rfl, fun _ => rfl⟩

theorem Family.str {pre : String} {mk : Nat → Nat → Os} (hf : Family pre mk) (a b : Nat) (ar : Arch) :
    ∃ archText : String,
      Platform.str ⟨mk a b, ar⟩ = pre ++ toString a ++ "_" ++ toString b ++ "_" ++ archText ∧
      archChars archText.toList = true ∧ parseArch archText.toList = .ok ar := by
  cases hf with
  | macos =>
    by_cases har : ar = .aarch64
    · subst har
      refine ⟨"arm64", ?_, parseArch_arm64⟩
      show "macos_" ++ toString a ++ "_" ++ toString b ++ "_arm64" = _
      simp [String.append_assoc]
    · exact ⟨ar.str, by cases ar <;> first | exact absurd rfl har | rfl, parseArch_str ar⟩
  | _ => exact ⟨ar.str, by cases ar <;> rfl, parseArch_str ar⟩

/-- the name is no alias because it has three underscores; the rest is `Family.parse` and the lexing of `X_Y_` -/
theorem family_roundtrip {pre : String} {mk : Nat → Nat → Os} (hf : Family pre mk) (a b : Nat) (ar : Arch) :
    parsePlatform (Platform.str ⟨mk a b, ar⟩) = .ok ⟨mk a b, ar⟩ := by
  obtain ⟨archText, hstr, h1, h2⟩ := hf.str a b ar
  obtain ⟨hu, hwin, hfam⟩ := hf.parse
  have hl : (Platform.str ⟨mk a b, ar⟩).toList =
      pre.toList ++ (digs a ++ '_' :: (digs b ++ '_' :: archText.toList)) := by
    rw [hstr]; simp [digs]
  obtain ⟨e1, e2, e3, e4, e5, e6⟩ := notAlias_of (Platform.str ⟨mk a b, ar⟩) (Or.inl (by
    have := List.count_pos_iff.2 hu
    simp only [hl, List.count_append, List.count_cons_self]
    omega))
  unfold parsePlatform
  simp only [e1, e2, e3, e4, e5, e6, Bool.false_eq_true, if_false, hl, hwin, hfam]
  rw [parseMajorMinor_text mk a b archText.toList ar h1 h2]

theorem manylinux_roundtrip (a b : Nat) (ar : Arch) :
    parsePlatform (Platform.str ⟨.manylinux a b, ar⟩) = .ok ⟨.manylinux a b, ar⟩ :=
  family_roundtrip .manylinux a b ar

theorem macos_roundtrip (a b : Nat) (ar : Arch) :
    parsePlatform (Platform.str ⟨.macos a b, ar⟩) = .ok ⟨.macos a b, ar⟩ :=
  family_roundtrip .macos a b ar

/-- the name starts with `w` and is longer than `windows`, so it is no alias -/
theorem parse_windows (x : String) (ar : Arch) (h : parseArch x.toList = .ok ar) :
    parsePlatform ("windows_" ++ x) = .ok ⟨.windows, ar⟩ := by
  obtain ⟨e1, e2, e3, e4, _⟩ := notAlias_of ("windows_" ++ x)
    (Or.inr (by rw [String.toList_append, prefix_chars.2.2.2]; exact ⟨rfl, by simp⟩))
  unfold parsePlatform
  simp [e1, e2, e3, e4, dropPrefix?, h, Except.map]

/-- Windows: `x86_64` is spelled `amd64`, `aarch64` is spelled `arm64` -/
theorem windows_roundtrip (ar : Arch) :
    parsePlatform (Platform.str ⟨.windows, ar⟩) = .ok ⟨.windows, ar⟩ := by
  by_cases h1 : ar = .x86_64
  · subst h1
    have e : Platform.str ⟨.windows, .x86_64⟩ = "windows_" ++ "amd64" := by decide +kernel
    rw [e]
    exact parse_windows _ _ (by decide +kernel)
  by_cases h2 : ar = .aarch64
  · subst h2
    have e : Platform.str ⟨.windows, .aarch64⟩ = "windows_" ++ "arm64" := by decide +kernel
    rw [e]
    exact parse_windows _ _ parseArch_arm64.2
  have hstr : Platform.str ⟨.windows, ar⟩ = "windows" ++ "_" ++ ar.str := by
    cases ar <;> first | exact absurd rfl h1 | exact absurd rfl h2 | rfl
  have hw : "windows" ++ "_" = "windows_" := by decide
  rw [hstr, hw]
  exact parse_windows ar.str ar (parseArch_str ar).2

/-- the documented families of the claim (BSD / Haiku / generic names are outside it) -/
def documented : Os → Bool
  | .unordered _ _ => false
  | _ => true

theorem platform_roundtrip (p : Platform) (hd : documented p.os = true) : parsePlatform p.str = .ok p := by
  rcases p with ⟨os, ar⟩
  cases os with
  | manylinux a b => exact manylinux_roundtrip a b ar
  | musllinux a b => exact family_roundtrip .musllinux a b ar
  | windows => exact windows_roundtrip ar
  | macos a b => exact macos_roundtrip a b ar
  | unordered c r => cases hd

/-- outside the documented families the round trip is false of the code: `OpenBsd` has no `__str__`, so the
    release is not printed (`openbsd_7_x86_64` prints as `openbsd_x86_64`, which does not parse back) -/
theorem openbsd_no_roundtrip :
    parsePlatform (Platform.str ⟨.unordered "openbsd" "7", .x86_64⟩) ≠ .ok ⟨.unordered "openbsd" "7", .x86_64⟩ := by
  decide +kernel

end C18
end DepLogic
