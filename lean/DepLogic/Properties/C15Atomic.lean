import DepLogic.Properties.C15

/-!
# C15, `of` over ANY list of empty / universal / single markers

`multiOf_flat` / `unionOfList_flat` are stated for single markers. Here the list may hold both constants as
well — the lists `MultiMarker.of` / `MarkerUnion.of` receive from `exclude()`, `only()`, the merge tables
(`Atomic` results) and from callers passing `EmptyMarker()` / `AnyMarker()` operands, which the property's
quantifier names explicitly. The result is in normal form from fuel 3 on, whether or not the loop converged
(`ofB_atomic`); so are, from fuel 4 on, `only()` and `exclude()` of a compound the raw constructors built over such a list.
-/

namespace DepLogic
namespace C15
open M

theorem multiOf_atomic (fuel : Nat) (ms : List M) (hs : AllAtomic ms) : FlatNF true (multiOf (fuel + 3) ms) :=
  ofB_atomic true fuel ms hs

theorem unionOfList_atomic (fuel : Nat) (ms : List M) (hs : AllAtomic ms) : FlatNF false (unionOfList (fuel + 3) ms) :=
  ofB_atomic false fuel ms hs

theorem only_single (f : Nat) (c : M) (names : List String) (hc : c.isSingle = true) :
    only f c names = c ∨ only f c names = .any := by
  cases f with
  | zero => exact Or.inl rfl
  | succ n =>
    obtain ⟨_, _, e⟩ := only_single_eq n names c hc
    rw [e]
    exact ite_both (P := fun r => r = c ∨ r = M.any) (Or.inl rfl) (Or.inr rfl)

theorem only_atomic (f : Nat) (c : M) (names : List String) (hc : Atomic c) : Atomic (only f c names) := by
  rcases hc with rfl | rfl | hc
  · cases f <;> exact Or.inl rfl
  · cases f <;> exact Or.inr (Or.inl rfl)
  · rcases only_single f c names hc with h | h <;> rw [h]
    · exact .of_single hc
    · exact Or.inr (Or.inl rfl)

theorem only_atomic_junction (b : Bool) (f : Nat) (l : List M) (names : List String) (hl : AllAtomic l) :
    FlatNF b (only (f + 4) (junction b l) names) := by
  rw [only_junction]
  exact ofB_atomic b f _ (List.forall_mem_map.2 fun c hc => only_atomic (f + 3) c names (hl c hc))

theorem only_atomic_multi (f : Nat) (l : List M) (names : List String) (hl : AllAtomic l) :
    FlatNF true (only (f + 4) (.multi l) names) :=
  only_atomic_junction true f l names hl

theorem only_atomic_union (f : Nat) (l : List M) (names : List String) (hl : AllAtomic l) :
    FlatNF false (only (f + 4) (.union l) names) :=
  only_atomic_junction false f l names hl

theorem exclude_atomic_junction (b : Bool) (f : Nat) (l : List M) (name : String) (hl : AllAtomic l) :
    FlatNF b (exclude (f + 4) (junction b l) name) := by
  rw [exclude_junction]
  exact ite_both (Or.inr (Or.inl rfl)) (ofB_atomic b f _ (forall_mem_keptB fun c hc hg =>
    (exclude_kept (hl c hc) hg).symm ▸ hl c hc))

theorem exclude_atomic_multi (f : Nat) (l : List M) (name : String) (hl : AllAtomic l) :
    FlatNF true (exclude (f + 4) (.multi l) name) :=
  exclude_atomic_junction true f l name hl

theorem exclude_atomic_union (f : Nat) (l : List M) (name : String) (hl : AllAtomic l) :
    FlatNF false (exclude (f + 4) (.union l) name) :=
  exclude_atomic_junction false f l name hl

/-! non-vacuity -/

example : AllAtomic [atomA, .any, atomB, .empty] := by
  intro x hx; simp at hx
  rcases hx with rfl | rfl | rfl | rfl
  · exact .of_single rfl
  · exact Or.inr (Or.inl rfl)
  · exact .of_single rfl
  · exact Or.inl rfl
example : beq (multiOf 8 [atomA, .any, atomB]) (.multi [atomA, atomB]) = true := by decide +kernel
example : beq (multiOf 8 [atomA, .any, atomB, .empty]) .empty = true := by decide +kernel
example : beq (unionOfList 8 [atomA, .any, atomB, .empty]) .any = true := by decide +kernel
example : beq (unionOfList 8 [atomA, .empty, atomB]) (.union [atomA, atomB]) = true := by decide +kernel

end C15
end DepLogic
