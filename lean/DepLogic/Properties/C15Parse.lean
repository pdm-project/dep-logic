import DepLogic.Properties.C15
import DepLogic.Proofs.BuildLoop
/-
  C15 — end to end for flat texts: what `_build_markers` returns for the token list of
  `a1 and a2 and … and an` (every fuel ≥ 7) resp. `a1 or … or an` (every fuel ≥ 3) is in normal form.
-/
namespace DepLogic
namespace C15
open M

theorem and_flatNF (f : Nat) (g m : M) (hg : FlatNF true g) (hm : m.isSingle = true) : FlatNF true (M.and (f + 6) g m) := by
  rcases hg with rfl | rfl | hg | ⟨l, rfl, _, _, hl⟩
  · exact Or.inl (opB_absorbing true (f + 5) m)
  · rw [show M.and (f + 6) .any m = m from opB_neutral true (f + 5) m]
    exact Or.inr (Or.inr (Or.inl hm))
  · exact and_flat f g m (Or.inl hg) (Or.inl hm)
  · exact and_flat f _ m (Or.inr ⟨l, rfl, hl⟩) (Or.inl hm)

def IsAtom : PItem → Prop
  | .atom _ _ _ _ => True
  | _ => False

theorem isAtom_operand {it : PItem} (hi : IsAtom it) : it ≠ .and_ ∧ it ≠ .or_ := by
  cases it <;> first | exact ⟨PItem.noConfusion, PItem.noConfusion⟩ | cases hi

theorem build_atom_single (fuel : Nat) (it : PItem) (hi : IsAtom it) (m : M) (h : build fuel it = some m) : m.isSingle = true := by
  cases fuel with
  | zero => cases h
  | succ n =>
    cases it <;> first | cases hi | skip
    rw [build_atom] at h
    obtain ⟨a, _, rfl⟩ := Option.map_eq_some_iff.1 h
    rfl

theorem bstep_atom {fuel : Nat} {g : M} {gs out : List M} {it : PItem} (hi : IsAtom it)
    (h : bstep fuel (some (g :: gs)) it = some out) : ∃ m, m.isSingle = true ∧ out = M.and fuel g m :: gs := by
  rw [bstep_operand fuel (isAtom_operand hi)] at h
  obtain ⟨m, hm, rfl⟩ := Option.map_eq_some_iff.1 h
  exact ⟨m, build_atom_single fuel it hi m hm, rfl⟩

theorem sep_joinItems (sep : PItem) : ∀ (as : List PItem), as ≠ [] →
    sep :: joinItems sep (as.map fun a => [a]) = as.flatMap fun x => [sep, x]
  | [], h => absurd rfl h
  | [_], _ => rfl
  | a :: b :: as, _ => by
    rw [List.flatMap_cons, ← sep_joinItems sep (b :: as) (List.cons_ne_nil _ _)]; rfl

/-- the loop of `_build_markers` starts as if after a separator (its first state `[AnyMarker]` is `[]` after an `or`,
    and `[AnyMarker]` after an `and`), so over `a1 sep … sep an` it repeats the two steps "separator, atom": what the pair
    keeps (`P`) holds of the groups the loop ends with -/
theorem fold_join (fuel : Nat) (sep : PItem) (P : List M → Prop)
    (hs : ∀ st a out, P st → IsAtom a → bstep fuel (bstep fuel (some st) sep) a = some out → P out)
    (as : List PItem) (ha : ∀ a ∈ as, IsAtom a) (hne : as ≠ []) (st out : List M) (hst : P st)
    (h : (joinItems sep (as.map fun a => [a])).foldl (bstep fuel) (bstep fuel (some st) sep) = some out) : P out := by
  rw [← List.foldl_cons, sep_joinItems sep as hne, List.foldl_flatMap] at h
  refine List.foldlRecOn as _ (motive := fun s => ∀ out, s = some out → P out) (fun _ e => Option.some.inj e ▸ hst)
    (fun s ih x hx out h => ?_) out h
  cases s with
  | none => cases h
  | some s => exact hs s x out (ih s rfl) (ha x hx) h

theorem build_flat_conj (f : Nat) (as : List PItem) (ha : ∀ a ∈ as, IsAtom a) (hne : as ≠ []) (r : M)
    (h : build (f + 7) (.group (joinItems .and_ (as.map fun a => [a]))) = some r) : FlatNF true r := by
  rw [build_group] at h
  obtain ⟨groups, hg, rfl⟩ := Option.map_eq_some_iff.1 h
  -- every atom lands in the one group, which stays in normal form (`and` leaves the groups as they are)
  obtain ⟨g', rfl, hg'⟩ := fold_join (f + 6) .and_ (fun st => ∃ g, st = [g] ∧ FlatNF true g)
    (fun st a out ⟨g, hst, hg⟩ hi hb => by
      subst hst
      obtain ⟨m, hm, rfl⟩ := bstep_atom hi hb
      exact ⟨_, rfl, and_flatNF f g m hg hm⟩)
    as ha hne [.any] groups ⟨_, rfl, Or.inr (Or.inl rfl)⟩ hg
  rw [List.reverse_singleton, show unionOfList (f + 6) [g'] = g' from ofB_one false (f + 3) g' (flatNF_not_other true g' hg')]
  exact hg'

/-- every `or` opens a new `AnyMarker` group and the one atom that lands in it replaces it, so the groups are the atoms -/
theorem build_flat_disj (f : Nat) (as : List PItem) (ha : ∀ a ∈ as, IsAtom a) (hne : as ≠ []) (r : M)
    (h : build (f + 3) (.group (joinItems .or_ (as.map fun a => [a]))) = some r) : FlatNF false r := by
  rw [build_group] at h
  obtain ⟨groups, hg, rfl⟩ := Option.map_eq_some_iff.1 h
  have hs : AllSingle groups := fold_join (f + 2) .or_ AllSingle
    (fun st a out hst hi hb => by
      obtain ⟨m, hm, rfl⟩ := bstep_atom hi hb
      rw [show M.and (f + 2) .any m = m from opB_neutral true (f + 1) m]
      exact List.forall_mem_cons.2 ⟨hm, hst⟩)
    as ha hne [] groups (List.forall_mem_nil _) hg
  exact unionOfList_flat (f + 1) _ fun x hx => hs x (List.mem_reverse.1 hx)

end C15
end DepLogic
