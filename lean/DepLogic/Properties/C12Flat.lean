import DepLogic.Properties.C12
import DepLogic.Properties.C15
import DepLogic.Properties.C15NonEmpty

/-!
# C12, third clause without the `NoVanish` hypothesis on two shapes

`exclude_same_partial` needs `NoVanish` ("no conjunct collapses to EmptyMarker on re-normalisation, no
disjunction is left with nothing"). For markers in disjunctive shape over single markers — a single marker,
a conjunction of single markers, or a non-empty disjunction of those — the hypothesis is a theorem
(`noVanish_dnf`), so the clause holds outright, at every fuel: `exclude_same_dnf`.  Likewise for a conjunction
of single markers and non-empty disjunctions of single markers (`noVanish_cnf`, `exclude_same_cnf`).
-/

namespace DepLogic
namespace C12
open M

def DnfShape (m : M) : Prop :=
  C15.FlatConj m ∨ ∃ l, m = .union l ∧ l ≠ [] ∧ ∀ c ∈ l, C15.FlatConj c

theorem noVanish_single (fuel : Nat) (c : M) (name : String) (hc : c.isSingle = true) : NoVanish fuel c name := by
  cases fuel with
  | zero => simp [NoVanish]
  | succ n => cases c <;> simp [isSingle] at hc <;> simp [NoVanish]

theorem noVanish_flatConj (fuel : Nat) (m : M) (name : String) (hm : C15.FlatConj m)
    (hn : GAll (NameIn (· ≠ name)) m) : NoVanish fuel m name := by
  rcases hm with hs | ⟨l, rfl, hl⟩
  · exact noVanish_single fuel m name hs
  · cases fuel with
    | zero => simp [NoVanish]
    | succ n =>
      simp only [NoVanish]
      intro c hc
      have hcs := hl c hc
      refine ⟨?_, noVanish_single n c name hcs⟩
      rw [C15.exclude_kept (.of_single hcs) (exclude_test_false name c (GAllL.mem hn hc))]
      exact (single_not_const true hcs).2

theorem noVanish_dnf (fuel : Nat) (m : M) (name : String) (hm : DnfShape m)
    (hn : GAll (NameIn (· ≠ name)) m) : NoVanish fuel m name := by
  rcases hm with hf | ⟨l, rfl, hne, hl⟩
  · exact noVanish_flatConj fuel m name hf hn
  · cases fuel with
    | zero => simp [NoVanish]
    | succ n =>
      simp only [NoVanish]
      exact ⟨hne, fun c hc => noVanish_flatConj n c name (hl c hc) (GAllL.mem hn hc)⟩

/-- **C12, third clause, no side condition**: on every marker in disjunctive shape that does not mention
    `name`, `m.exclude(name)` (and `without_extras()`, which is `exclude("extra")`) means what `m` means, in
    every total environment and at every fuel -/
theorem exclude_same_dnf (env : Env) (he : EnvTotal env) (name : String) (fuel : Nat) (m : M)
    (hm : GAll (Good env) m) (hs : DnfShape m) (hn : GAll (NameIn (· ≠ name)) m) :
    sem env (exclude fuel m name) = sem env m :=
  (exclude_final env he name fuel m hm).2.2 hn (noVanish_dnf fuel m name hs hn)

/-! non-vacuity -/

example : DnfShape (.union [.multi [C15.atomA, C15.atomB], C15.atomC]) := by
  right
  refine ⟨_, rfl, by simp, ?_⟩
  intro c hc
  simp at hc
  rcases hc with rfl | rfl
  · right; exact ⟨_, rfl, by intro x hx; simp at hx; rcases hx with rfl | rfl <;> rfl⟩
  · left; rfl

example : GAll (NameIn (· ≠ "extra")) (.union [.multi [C15.atomA, C15.atomB], C15.atomC]) := by
  simp [GAll, GAllL, NameIn, singleName?, C15.atomA, C15.atomB, C15.atomC]

/-! ### conjunctive shape: a conjunction whose members are single markers or non-empty disjunctions of single
markers — the factored form `|` may choose -/

def DisjItem (c : M) : Prop := c.isSingle = true ∨ ∃ l, c = .union l ∧ l ≠ [] ∧ C15.AllSingle l

def CnfShape (m : M) : Prop := ∃ l, m = .multi l ∧ ∀ c ∈ l, DisjItem c

theorem exclude_disjItem_not_empty (fuel : Nat) (c : M) (name : String) (hc : DisjItem c)
    (hn : GAll (NameIn (· ≠ name)) c) : (exclude fuel c name).isEmpty = false := by
  rcases hc with hs | ⟨l, rfl, hne, hl⟩
  · rw [C15.exclude_kept (.of_single hs) (exclude_test_false name c hn)]
    exact (single_not_const true hs).2
  · cases fuel with
    | zero => rfl
    | succ f =>
      -- every member is a single marker on another variable: all are kept, as they are
      have keep : keptB false f name l = l :=
        (keptB_eq_map fun x hx => ⟨exclude_test_false name x (GAllL.mem hn hx), rfl⟩).trans
          ((List.map_congr_left fun x hx =>
            C15.exclude_kept (.of_single (hl x hx)) (exclude_test_false name x (GAllL.mem hn hx))).trans (List.map_id' l))
      rw [show exclude (f + 1) (.union l) name = _ from exclude_junction false f l name, keep,
        if_neg (by simp [List.isEmpty_eq_false_iff.2 hne])]
      exact C15.unionOfList_not_empty f l hl hne

theorem noVanish_disjItem (fuel : Nat) (c : M) (name : String) (hc : DisjItem c) : NoVanish fuel c name := by
  rcases hc with hs | ⟨l, rfl, hne, hl⟩
  · exact noVanish_single fuel c name hs
  · cases fuel with
    | zero => simp [NoVanish]
    | succ f =>
      simp only [NoVanish]
      exact ⟨hne, fun c hc => noVanish_single f c name (hl c hc)⟩

theorem noVanish_cnf (fuel : Nat) (m : M) (name : String) (hm : CnfShape m)
    (hn : GAll (NameIn (· ≠ name)) m) : NoVanish fuel m name := by
  obtain ⟨l, rfl, hl⟩ := hm
  cases fuel with
  | zero => simp [NoVanish]
  | succ f =>
    simp only [NoVanish]
    intro c hc
    exact ⟨exclude_disjItem_not_empty f c name (hl c hc) (GAllL.mem hn hc), noVanish_disjItem f c name (hl c hc)⟩

/-- **C12, third clause, no side condition, conjunctive shapes** -/
theorem exclude_same_cnf (env : Env) (he : EnvTotal env) (name : String) (fuel : Nat) (m : M)
    (hm : GAll (Good env) m) (hs : CnfShape m) (hn : GAll (NameIn (· ≠ name)) m) :
    sem env (exclude fuel m name) = sem env m :=
  (exclude_final env he name fuel m hm).2.2 hn (noVanish_cnf fuel m name hs hn)

example : CnfShape (.multi [C15.atomA, .union [C15.atomB, C15.atomC]]) := by
  refine ⟨_, rfl, ?_⟩
  intro c hc
  simp at hc
  rcases hc with rfl | rfl
  · left; rfl
  · right; exact ⟨_, rfl, by simp, by intro x hx; simp at hx; rcases hx with rfl | rfl <;> rfl⟩

end C12
end DepLogic
