import DepLogic.Proofs.SpecTheorems
import DepLogic.Model.Version
/-
  C01 — Version-specifier `&`, `|`, `~` compute exact set intersection, union, complement.

  Stated for an arbitrary linear preorder of bounds (so: whatever the shape of the versions
  used as bounds), then instantiated at PEP 440 versions.
-/
namespace DepLogic
namespace C01
open Spec
variable {α : Type} [LinPre α]

/-- Specifiers obtainable from leaves (parsed clauses) and previous results of the operators. -/
inductive Reach (Leaf : Spec α → Prop) : Spec α → Prop where
  | leaf {s} : Leaf s → Reach Leaf s
  | and {a b} : Reach Leaf a → Reach Leaf b → Reach Leaf (a.and b)
  | or {a b r} : Reach Leaf a → Reach Leaf b → a.or b = some r → Reach Leaf r
  | invert {a} : Reach Leaf a → Reach Leaf a.invert

theorem reach_canon {Leaf : Spec α → Prop} (hleaf : ∀ s, Leaf s → Canon s) {s : Spec α}
    (h : Reach Leaf s) : Canon s := by
  induction h with
  | leaf h => exact hleaf _ h
  | and _ _ iha ihb => exact and_canon _ _ iha ihb
  | or _ _ hr iha ihb => exact (or_some iha ihb hr).1
  | invert _ ih => exact invert_canon _ ih

/-- `a & b` admits exactly the versions admitted by both – for *all* specifier objects. -/
theorem and_exact (a b : Spec α) (v : α) : (a.and b).mem v ↔ (a.mem v ∧ b.mem v) :=
  Spec.and_mem a b v

/-- `a | b` never crashes on canonical operands and admits exactly the versions admitted by either. -/
theorem or_exact (a b : Spec α) (ha : Canon a) (hb : Canon b) :
    ∃ r, a.or b = some r ∧ ∀ v, r.mem v ↔ (a.mem v ∨ b.mem v) := by
  obtain ⟨r, h1, _, h3⟩ := or_spec a b ha hb
  exact ⟨r, h1, h3⟩

/-- `~a` admits exactly the versions not admitted by `a`. -/
theorem invert_exact (a : Spec α) (ha : Canon a) (v : α) : (a.invert).mem v ↔ ¬ a.mem v :=
  Spec.invert_mem a ha v

/-- The property as stated: for everything reachable from canonical leaves. -/
theorem main {Leaf : Spec α → Prop} (hleaf : ∀ s, Leaf s → Canon s) {a b : Spec α}
    (ha : Reach Leaf a) (hb : Reach Leaf b) :
    (∀ v, (a.and b).mem v ↔ (a.mem v ∧ b.mem v)) ∧
    (∃ r, a.or b = some r ∧ ∀ v, r.mem v ↔ (a.mem v ∨ b.mem v)) ∧
    (∀ v, (a.invert).mem v ↔ ¬ a.mem v) :=
  ⟨and_exact a b, or_exact a b (reach_canon hleaf ha) (reach_canon hleaf hb),
   invert_exact a (reach_canon hleaf ha)⟩

/-- `main` quoted at PEP 440 versions; nothing about their shape is used. -/
theorem main_pep440 {Leaf : Spec Ver → Prop} (hleaf : ∀ s, Leaf s → Canon s) {a b : Spec Ver}
    (ha : Reach Leaf a) (hb : Reach Leaf b) :
    (∀ v, (a.and b).mem v ↔ (a.mem v ∧ b.mem v)) ∧
    (∃ r, a.or b = some r ∧ ∀ v, r.mem v ↔ (a.mem v ∨ b.mem v)) ∧
    (∀ v, (a.invert).mem v ↔ ¬ a.mem v) := main hleaf ha hb

/-! non-vacuity: concrete canonical operands with bounds of mixed shape -/
def exA : Spec Ver := .union
  [{ max := some { release := [1, 0] } },
   { min := some { release := [1, 0, 0] }, max := some { release := [2], pre := some (.rc, 1) }, incMax := true }] none
def exB : Spec Ver := .range { min := some { release := [0, 9], post := some 1 }, incMin := true,
                               max := some { epoch := 1, release := [0] } }
example : Canon exA ∧ Canon exB := by decide
example : exA.and exB = .union
  [{ min := some { release := [0, 9], post := some 1 }, incMin := true, max := some { release := [1, 0] } },
   { min := some { release := [1, 0, 0] }, max := some { release := [2], pre := some (.rc, 1) }, incMax := true }] none := by
  decide
example : (exA.invert).mem { release := [1] } := by decide

end C01
end DepLogic
