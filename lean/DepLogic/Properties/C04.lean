import DepLogic.Proofs.FromClause
/-
  C04 — specifier membership agrees with PEP 440 through the whole algebra (final releases).

  Shape of the argument: (1) leaf lemma: for a final `v`, PEP 440 matching of a clause equals
  interval membership in `fromClause c` — proved on the interval the clause names
  (`clauseRange_matches`), `!=` being the negation of `==` on both sides; (2) C01: `&`, `|`, `~`
  are exact on intervals, lifted here to expression trees; (3) the rendered text of a result
  matches exactly its interval members (Properties/C04Contains.lean, from C06's round trip).
-/
namespace DepLogic
namespace C04
open LinPre Spec

/-- clauses whose translation involves no release arithmetic -/
def Plain (c : Clause Ver) : Prop := c.wild = false ∧ c.op ≠ .compat

theorem clauseRange_matches (c : Clause Ver) (v : Ver) (hv : v.isFinal = true ∨ Plain c) (hne : c.op ≠ .ne)
    (r : Range Ver) (hr : clauseRange c = some r) : Pep440.matchesFinal c v = some (decide (r.mem v)) := by
  rcases c with ⟨op, x, w⟩
  cases op
  case ne => exact absurd rfl hne
  case gt => cases hr; exact congrArg some (decide_eq_decide.2 (by simp [Range.mem]))
  case ge => cases hr; exact congrArg some (decide_eq_decide.2 (by simpa [Range.mem] using le_iff_lt_or_eqv x v))
  case lt => cases hr; exact congrArg some (decide_eq_decide.2 (by simp [Range.mem]))
  case le => cases hr; exact congrArg some (decide_eq_decide.2 (by simpa [Range.mem] using le_iff_lt_or_eqv v x))
  case eq =>
    cases w
    · cases hr; exact congrArg some (decide_eq_decide.2 (by simp [Range.mem, ← le_iff_lt_or_eqv, eqv]))
    · have hfin := hv.resolve_right fun h => Bool.noConfusion h.1
      obtain ⟨mx, hmx, rfl⟩ := Option.map_eq_some_iff.1 hr
      refine congrArg some (Bool.eq_iff_iff.2 (Iff.trans ?_ decide_eq_true_iff.symm))
      rw [← VOrd.wild_mem x v mx hfin hmx]
      simp [Range.mem, le_iff_lt_or_eqv]
  case compat =>
    have hfin := hv.resolve_right fun h => h.2 rfl
    obtain ⟨mx, hmx, rfl⟩ := Option.map_eq_some_iff.1 hr
    -- `~=N` has no series to step to: the parser refuses it as PEP 440 does
    have hlen : ¬ x.release.length < 2 := fun hl => by
      rw [show x.release.length - 1 = 0 by omega] at hmx
      cases hmx
    refine (if_neg hlen).trans (congrArg some (Bool.eq_iff_iff.2 (Iff.trans ?_ decide_eq_true_iff.symm)))
    rw [Bool.and_eq_true, decide_eq_true_eq, ← VOrd.compat_mem x v mx hfin hmx]
    simp [Range.mem, le_iff_lt_or_eqv]

/-- **the leaf theorem as one equation**: a clause that parses has a PEP 440 meaning, and it is
    membership in what it parses to -/
theorem matches_eq (c : Clause Ver) (v : Ver) (hv : v.isFinal = true ∨ Plain c) (s : Spec Ver)
    (hs : fromClause c = some s) : Pep440.matchesFinal c v = some (decide (s.mem v)) := by
  obtain ⟨r, hr, hm⟩ := fromClause_mem c s hs
  by_cases hne : c.op = .ne
  · -- `!=V[.*]` names the interval of `==V[.*]` and matches when that does not
    rcases c with ⟨op, x, w⟩
    cases hne
    have hr' : clauseRange ⟨.eq, x, w⟩ = some r := by cases w <;> exact hr
    have hmap : Pep440.matchesFinal ⟨.ne, x, w⟩ v = (Pep440.matchesFinal ⟨.eq, x, w⟩ v).map (!·) := by cases w <;> rfl
    rw [hmap, clauseRange_matches ⟨.eq, x, w⟩ v (hv.imp_right fun h => ⟨h.1, nofun⟩) nofun r hr']
    exact congrArg some (decide_not.symm.trans (decide_eq_decide.2 (by rw [hm, if_pos rfl])))
  · exact (clauseRange_matches c v hv hne r hr).trans (congrArg some (decide_eq_decide.2 (by rw [hm, if_neg hne])))

/-- plain operators, every candidate: off the final ones `matchesFinal` is the key order -/
theorem leaf_exact_plain (c : Clause Ver) (h : Plain c) (v : Ver) :
    ∃ s b, fromClause c = some s ∧ Pep440.matchesFinal c v = some b ∧ (b = true ↔ s.mem v) := by
  obtain ⟨s, hs⟩ : ∃ s, fromClause c = some s := by
    rcases c with ⟨op, x, w⟩; cases h.1; cases op <;> first | exact ⟨_, rfl⟩ | exact absurd rfl h.2
  exact ⟨s, _, hs, matches_eq c v (.inr h) s hs, decide_eq_true_iff⟩

/-- **leaf lemma, all operators**: on a final-release candidate, PEP 440 matching of a clause is
    interval membership in the range(s) `_from_pkg_specifier` builds -/
theorem leaf_exact (c : Clause Ver) (v : Ver) (hv : v.isFinal = true) (s : Spec Ver) (b : Bool)
    (hs : fromClause c = some s) (hb : Pep440.matchesFinal c v = some b) : b = true ↔ s.mem v := by
  cases hb.symm.trans (matches_eq c v (.inl hv) s hs)
  exact decide_eq_true_iff

inductive Tree where
  | leaf (s : Spec Ver)
  | and (a b : Tree)
  | or (a b : Tree)
  | not (a : Tree)

/-- evaluation by the library's operators (`none` = `|` crashed) -/
def Tree.interp : Tree → Option (Spec Ver)
  | .leaf s => some s
  | .and a b => a.interp.bind fun x => b.interp.map fun y => x.and y
  | .or a b => a.interp.bind fun x => b.interp.bind fun y => x.or y
  | .not a => a.interp.map Spec.invert

def Tree.sem (v : Ver) : Tree → Prop
  | .leaf s => s.mem v
  | .and a b => a.sem v ∧ b.sem v
  | .or a b => a.sem v ∨ b.sem v
  | .not a => ¬ a.sem v

def Tree.LeavesCanon : Tree → Prop
  | .leaf s => Canon s
  | .and a b => a.LeavesCanon ∧ b.LeavesCanon
  | .or a b => a.LeavesCanon ∧ b.LeavesCanon
  | .not a => a.LeavesCanon

/-- through the whole algebra: the result of any expression admits exactly the Boolean
    combination of what its leaves admit, and the evaluation never crashes -/
theorem tree_exact (t : Tree) (h : t.LeavesCanon) :
    ∃ r, t.interp = some r ∧ Canon r ∧ ∀ v, r.mem v ↔ t.sem v := by
  induction t with
  | leaf s => exact ⟨s, rfl, h, fun _ => Iff.rfl⟩
  | and a b iha ihb =>
    obtain ⟨x, hx, cx, mx⟩ := iha h.1
    obtain ⟨y, hy, cy, my⟩ := ihb h.2
    refine ⟨x.and y, by simp [Tree.interp, hx, hy], and_canon x y cx cy, fun v => ?_⟩
    rw [Spec.and_mem, mx, my]; rfl
  | or a b iha ihb =>
    obtain ⟨x, hx, cx, mx⟩ := iha h.1
    obtain ⟨y, hy, cy, my⟩ := ihb h.2
    obtain ⟨r, hr, cr, mr⟩ := or_spec x y cx cy
    refine ⟨r, by simp [Tree.interp, hx, hy, hr], cr, fun v => ?_⟩
    rw [mr, mx, my]; rfl
  | not a iha =>
    obtain ⟨x, hx, cx, mx⟩ := iha h
    refine ⟨x.invert, by simp [Tree.interp, hx], invert_canon x cx, fun v => ?_⟩
    rw [invert_mem x cx, mx]; rfl

end C04

end DepLogic
