import DepLogic.Properties.C03
import DepLogic.Properties.C12
import DepLogic.Properties.C07Atom
/-
  C07 — marker text round trip.

  `str m` is atoms, `and`, `or` and parentheses; packaging's parser turns it into a nested list and
  `_build_markers` turns that into a marker again.  `M.items m` is the list the text of `m` denotes.
  For every fuel that covers the nesting depth and every environment:

  * `items_sem`     : the reference evaluation of `items m` is the meaning of `m`: the parentheses chosen by
                      `MultiMarker.__str__` / `MarkerUnion.__str__` and the re-rendered atoms (grouped, literal on
                      the left) denote the marker printed;
  * `reparse_sound` : what `_build_markers` builds from that list (through all the parse-time merging) means what
                      `m` means — IF it builds: `build … = some m'` is a hypothesis, and that `items m` is accepted
                      is not proved;
  * `str_empty_any` : the empty / universal markers render as `<empty>` / the empty string.

  Hypotheses: atoms of the well-defined classes (as C02); `Printable m`: no Empty/Any inside a compound and no
  grouped atom without values (part of the normal form, C15).
  `items m` against what packaging reads from `str m`: compared on every run (stream `C07.tokens`), and proved for the
  model of `_parse_full_marker` in C07Full (`text_roundtrip_printable`; that model against packaging: stream `C07.text`).
  Outside the model: `parse_marker`'s special cases for `<empty>`, `` and `*`.
-/
namespace DepLogic
namespace C07
open M C03

theorem str_empty_any : str .empty = "<empty>" ∧ str .any = "" := ⟨rfl, rfl⟩

def isOr : PItem → Bool
  | .or_ => true
  | _ => false

/-- what an item adds to the conjunction of its `or`-group -/
def opnd (f : PItem → Bool) : PItem → Bool
  | .and_ => true
  | it => f it

theorem refStep_cons (f : PItem → Bool) (g : Bool) (gs : List Bool) (it : PItem) :
    refStep f (g :: gs) it = if isOr it then true :: g :: gs else (g && opnd f it) :: gs := by
  cases it <;> simp [refStep, isOr, opnd]

/-- `_evaluate_markers` on a flat list, said at once: `any(all(group))` over the `or`-separated groups -/
def val (f : PItem → Bool) (ts : List PItem) : Bool := (ts.splitOnP isOr).any (·.all (opnd f))

def OrFree (ts : List PItem) : Prop := ∀ it ∈ ts, isOr it = false

theorem val_orFree (f : PItem → Bool) {ts : List PItem} (h : OrFree ts) : val f ts = ts.all (opnd f) := by
  rw [val, List.splitOnP_eq_singleton h, List.any_cons, List.any_nil, Bool.or_false]

theorem val_or (f : PItem → Bool) (xs ys : List PItem) : val f (xs ++ .or_ :: ys) = (val f xs || val f ys) := by
  rw [val, List.splitOnP_append_cons xs ys (sep := .or_) rfl, List.any_append]; rfl

/-- the loop of `_evaluate_markers` computes it: `pre` is what has been read of the current group -/
theorem fold_val (f : PItem → Bool) : ∀ (ts pre : List PItem) (rest : List Bool), OrFree pre →
    (ts.foldl (refStep f) (pre.all (opnd f) :: rest)).any id = (val f (pre ++ ts) || rest.any id)
  | [], pre, rest, h => by rw [List.append_nil, val_orFree f h]; rfl
  | it :: ts, pre, rest, h => by
    rw [List.foldl_cons, refStep_cons]
    by_cases ho : isOr it = true
    · obtain rfl : it = .or_ := by cases it <;> first | rfl | cases ho
      have := fold_val f ts [] (pre.all (opnd f) :: rest) nofun
      rw [if_pos ho, val_or, val_orFree f h]
      exact this.trans (by rw [List.any_cons, List.nil_append, id, Bool.or_left_comm, Bool.or_assoc])
    · have h' : OrFree (pre ++ [it]) := List.forall_mem_append.2 ⟨h, by simpa using ho⟩
      have := fold_val f ts (pre ++ [it]) rest h'
      rw [List.all_append, List.all_cons, List.all_nil, Bool.and_true, List.append_assoc] at this
      rw [if_neg ho]
      exact this

theorem refSem_group (env : Env) (fuel : Nat) (its : List PItem) :
    refSem env (fuel + 1) (.group its) = val (refSem env fuel) its :=
  (fold_val _ its [] [] nofun).trans (Bool.or_false _)

theorem joinItems_two (sep : PItem) (x y : List PItem) (ys : List (List PItem)) :
    joinItems sep (x :: y :: ys) = x ++ sep :: joinItems sep (y :: ys) := by
  simp [joinItems]

/-- `c`: when `p` is claimed to have no top-level `or`, so that it may stand bare inside a conjunction -/
structure Part (env : Env) (k : Nat) (c : Prop) (p : List PItem) (v : Bool) : Prop where
  val : val (refSem env k) p = v
  orFree : c → OrFree p
  good : ∀ it ∈ p, PGood env k it

theorem Part.mono {env : Env} {k : Nat} {c c' : Prop} {p : List PItem} {v : Bool} (h : Part env k c p v)
    (hc : c' → c) : Part env k c' p v :=
  ⟨h.val, fun x => h.orFree (hc x), h.good⟩

theorem Part.operand (env : Env) (k : Nat) (c : Prop) {it : PItem} (hop : it ≠ .and_ ∧ it ≠ .or_)
    (hg : PGood env k it) : Part env k c [it] (refSem env k it) := by
  have h1 : isOr it = false := by cases it <;> first | rfl | simp at hop
  have h2 : opnd (refSem env k) it = refSem env k it := by cases it <;> first | rfl | simp at hop
  have hof : OrFree [it] := fun x hx => List.mem_singleton.1 hx ▸ h1
  exact ⟨by rw [val_orFree _ hof, List.all_cons, h2]; simp, fun _ => hof, fun x hx => List.mem_singleton.1 hx ▸ hg⟩

theorem Part.atom (env : Env) (k : Nat) (c : Prop) {v : Bool} {l o r : String} {a : Atom} (hat : atomOf v l o r = some a)
    (hga : GoodAtom env a) : Part env (k + 1) c [.atom v l o r] (sem env (.expr a)) :=
  refSem_atom env k hat ▸ Part.operand env (k + 1) c ⟨nofun, nofun⟩ ((pgood_atom env k hat).2 hga)

/-- `and` binds tighter than `or`: parts joined by `and` (`b`) have to be or-free, and then so is the join; parts joined
    by `or` may be anything -/
theorem Part.join {ι : Type} (env : Env) (k : Nat) (b : Bool) (pt : ι → List PItem) (v : ι → Bool) :
    ∀ (l : List ι), l ≠ [] → (∀ i ∈ l, Part env k (b = true) (pt i) (v i)) →
      Part env k (b = true) (joinItems (opItem b) (l.map pt)) (aggF b v l)
  | [], h, _ => absurd rfl h
  | [i], _, h => by
    rw [aggF_cons, aggF_nil, bop_neutral_right]
    exact h i List.mem_cons_self
  | i :: j :: l, _, h => by
    obtain ⟨hi, ht⟩ := List.forall_mem_cons.1 h
    have hr := Part.join env k b pt v (j :: l) nofun ht
    rw [List.map_cons, List.map_cons, joinItems_two, ← List.map_cons, aggF_cons]
    have hof : b = true → OrFree (pt i ++ opItem b :: joinItems (opItem b) ((j :: l).map pt)) := fun hb =>
      List.forall_mem_append.2 ⟨hi.orFree hb, List.forall_mem_cons.2 ⟨by rw [hb]; rfl, hr.orFree hb⟩⟩
    refine ⟨?_, hof, ?_⟩
    · cases b
      · exact (val_or _ _ _).trans (by rw [hi.val, hr.val]; rfl)
      · -- one group throughout: split the conjunction of operands at the `and`
        rw [val_orFree _ (hof rfl), List.all_append, List.all_cons, ← val_orFree _ (hi.orFree rfl),
          ← val_orFree _ (hr.orFree rfl), hi.val, hr.val]
        rfl
    · have hsep : PGood env k (opItem b) := by cases b <;> cases k <;> simp [opItem, PGood]
      exact List.forall_mem_append.2 ⟨hi.good, List.forall_mem_cons.2 ⟨hsep, hr.good⟩⟩

mutual
def Printable : M → Prop
  | .any => False
  | .empty => False
  | .expr _ => True
  | .eqU _ vs => vs ≠ []
  | .neM _ vs => vs ≠ []
  | .multi ms => ms ≠ [] ∧ PrintableL ms
  | .union ms => ms ≠ [] ∧ PrintableL ms
def PrintableL : List M → Prop
  | [] => True
  | m :: ms => Printable m ∧ PrintableL ms
end

theorem printableL_iff (ms : List M) : PrintableL ms ↔ ∀ c ∈ ms, Printable c := by
  induction ms with
  | nil => simp [PrintableL]
  | cons m ms ih => simp [PrintableL, ih]

theorem mop_roundtrip (o : MOp) : MOp.ofString? o.str = some o ∧ o.reflect.reflect = o := by
  cases o <;> decide +kernel

theorem mkAtom_self (a : Atom) (hw : a.WF) : mkAtom a.name a.op a.value a.reversed = some a := by
  rw [mkAtom, hw]; rfl

/-- a literal on the left: the operator is reflected in the text and reflected back by `_build_markers` -/
theorem atomOf_atomItem (a : Atom) (hw : a.WF) : ∃ v l o r, atomItem a = .atom v l o r ∧ atomOf v l o r = some a := by
  have hm := mkAtom_self a hw
  unfold atomItem
  cases hr : a.reversed <;> rw [hr] at hm
  · refine ⟨true, a.name, a.op.str, a.value, by simp, ?_⟩
    rw [atomOf, (mop_roundtrip a.op).1]
    exact hm
  · refine ⟨false, a.value, a.op.reflect.str, a.name, by simp, ?_⟩
    rw [atomOf, (mop_roundtrip a.op.reflect).1]
    simp only [Option.bind_some, Bool.false_eq_true, if_false, (mop_roundtrip a.op).2]
    exact hm

def isConj : M → Bool
  | .expr _ | .multi _ => true
  | _ => false

abbrev ItemsOk (env : Env) (k : Nat) (m : M) : Prop := Part env k (isConj m = true) (items m) (sem env m)

def childItems (m : M) : List PItem := if isConj m then m.items else [.group m.items]

theorem itemsMultiChildren_eq : ∀ (ms : List M), itemsMultiChildren ms = ms.map childItems
  | [] => rfl
  | m :: ms => by rw [List.map_cons, ← itemsMultiChildren_eq ms]; cases m <;> rfl

theorem itemsList_eq : ∀ (ms : List M), itemsList ms = ms.map M.items
  | [] => rfl
  | m :: ms => by simp [itemsList, itemsList_eq ms]

/-- a child that is not itself conjunctive is one nested list, evaluated one level down: hence both depths -/
theorem child_ok (env : Env) (k0 : Nat) (c : Prop) (m : M) (same : ItemsOk env (k0 + 1) m) (inner : ItemsOk env k0 m) :
    Part env (k0 + 1) c (childItems m) (sem env m) := by
  fun_cases childItems m
  · next h => exact same.mono fun _ => h
  · rw [← inner.val, ← refSem_group]
    exact Part.operand env (k0 + 1) c ⟨nofun, nofun⟩ inner.good

theorem succ_of_depth_le {m : M} {k : Nat} (h : C12.depth m ≤ k) : ∃ k0, k = k0 + 1 := by
  have : 1 ≤ C12.depth m := by cases m <;> simp [C12.depth]
  exact ⟨k - 1, by omega⟩

/-- the atom that a token of a grouped marker denotes: `n != "v"` in `neM`, whose tokens are joined by `and`
    (`isAnd`, as in `opItem` and `Part.join`), `n == "v"` in `eqU` -/
def eqAtom (isAnd : Bool) (n v : String) : Atom :=
  ⟨n, if isAnd then .ne else .eq, v, false, .gen ⟨if isAnd then .ne else .eq, v⟩⟩

theorem eq_part (env : Env) (isAnd : Bool) (nm : String) (hn : StrName nm) (t : String) (ht : env nm = some (.str t)) (k0 : Nat)
    (c : Prop) (v : String) :
    Part env (k0 + 1) c [.atom true nm (if isAnd then "!=" else "==") v] (if isAnd then t != v else t == v) := by
  have hat : atomOf true nm (if isAnd then "!=" else "==") v = some (eqAtom isAnd nm v) := by
    cases isAnd <;> exact mkAtom_str nm hn.2.1 _ v false _ rfl
  obtain ⟨_, hgood, hsem⟩ := gen_fromSpecifier env nm hn ⟨if isAnd then .ne else .eq, v⟩ (if isAnd then .ne else .eq)
    (by cases isAnd <;> rfl)
  simp only [holds, ht] at hsem
  have hval : sem env (.expr (eqAtom isAnd nm v)) = (if isAnd then t != v else t == v) := by
    cases isAnd <;> exact hsem
  exact hval ▸ Part.atom env k0 c hat hgood

section
variable (env : Env) (he : EnvTotal env)
include he

mutual
theorem items_ok : ∀ (m : M), Printable m → GAll (Good env) m → ∀ k, C12.depth m ≤ k → ItemsOk env k m
  | m, hp, hg, k, hk => by
    obtain ⟨k0, rfl⟩ := succ_of_depth_le hk
    match m with
    | .any => simp [Printable] at hp
    | .empty => simp [Printable] at hp
    | .expr a =>
      have hga : GoodAtom env a := by simpa [GAll, Good] using hg
      obtain ⟨v, l, o, r, hi, hat⟩ := atomOf_atomItem a hga.1
      rw [ItemsOk, items, hi]
      exact Part.atom env k0 _ hat hga
    | .eqU nm vs =>
      have hn : StrName nm := by simpa [GAll, Good] using hg
      obtain ⟨t, ht⟩ := strName_env env he nm hn
      have hv : sem env (.eqU nm vs) = aggF false (fun v => t == v) vs := by
        rw [sem, ht]; exact List.contains_eq_any_beq
      rw [ItemsOk, hv]
      exact Part.join env (k0 + 1) false (fun v => [.atom true nm "==" v]) (fun v => t == v) vs hp
        fun v _ => eq_part env false nm hn t ht k0 _ v
    | .neM nm vs =>
      have hn : StrName nm := by simpa [GAll, Good] using hg
      obtain ⟨t, ht⟩ := strName_env env he nm hn
      have hv : sem env (.neM nm vs) = aggF true (fun v => t != v) vs := by
        rw [sem, ht]
        exact (congrArg (!·) List.contains_eq_any_beq).trans List.not_any_eq_all_not
      rw [ItemsOk, hv]
      exact (Part.join env (k0 + 1) true (fun v => [.atom true nm "!=" v]) (fun v => t != v) vs hp
        fun v _ => eq_part env true nm hn t ht k0 _ v).mono nofun
    | .multi ms =>
      have hkl : C12.depthL ms ≤ k0 := by simp only [C12.depth] at hk; omega
      rw [ItemsOk, items, itemsMultiChildren_eq, sem, semAll_eq]
      exact Part.join env (k0 + 1) true childItems (sem env) ms hp.1 fun c hc =>
        child_ok env k0 _ c (items_okL ms hp.2 hg (k0 + 1) (Nat.le_succ_of_le hkl) c hc) (items_okL ms hp.2 hg k0 hkl c hc)
    | .union ms =>
      have hkl : C12.depthL ms ≤ k0 := by simp only [C12.depth] at hk; omega
      rw [ItemsOk, items, itemsList_eq, sem, semAny_eq]
      exact Part.join env (k0 + 1) false items (sem env) ms hp.1 fun c hc =>
        (items_okL ms hp.2 hg (k0 + 1) (Nat.le_succ_of_le hkl) c hc).mono nofun
theorem items_okL : ∀ (ms : List M), PrintableL ms → GAllL (Good env) ms → ∀ k, C12.depthL ms ≤ k →
    ∀ c ∈ ms, ItemsOk env k c
  | [], _, _, _, _ => nofun
  | m :: ms, hp, hg, k, hk => by
    simp only [C12.depthL, Nat.max_le] at hk
    exact List.forall_mem_cons.2 ⟨items_ok m hp.1 hg.1 k hk.1, items_okL ms hp.2 hg.2 k hk.2⟩
end

theorem items_sem (m : M) (hp : Printable m) (hg : GAll (Good env) m) (k : Nat) (hk : C12.depth m ≤ k) :
    refSem env (k + 1) (.group (items m)) = sem env m := by
  rw [refSem_group]
  exact (items_ok env he m hp hg k hk).val

theorem reparse_sound (hF : FromSpecOk env) (hP : PyMergeOk env) (m m' : M) (hp : Printable m)
    (hg : GAll (Good env) m) (k : Nat) (hk : C12.depth m ≤ k)
    (hb : build (k + 1) (.group (items m)) = some m') : sem env m' = sem env m := by
  have good : PGood env (k + 1) (.group (items m)) :=
    (items_ok env he m hp hg k hk).good
  rw [(build_sound env he hF hP (k + 1) _ m' good hb).2]
  exact items_sem env he m hp hg k hk

end

theorem reparse_sound_final (env : Env) (he : EnvTotal env) (m m' : M) (hp : Printable m)
    (hg : GAll (Good env) m) (k : Nat) (hk : C12.depth m ≤ k)
    (hb : build (k + 1) (.group (items m)) = some m') : sem env m' = sem env m :=
  reparse_sound env he (C02.bridge env he).1 (C02.bridge env he).2 m m' hp hg k hk hb

/-- non-vacuity: a parenthesised group, a literal-on-the-left atom and grouped atoms (not shown: that `build` accepts
    its tokens) -/
example : let m : M := .multi [.expr ⟨"sys_platform", .in_, "lin", true, .gen ⟨.contains, "lin"⟩⟩,
                                .union [.eqU "os_name" ["a", "b"], .neM "platform_machine" ["x"]]]
    Printable m ∧ C12.depth m ≤ 3 := by
  simp [Printable, PrintableL, C12.depth, C12.depthL]

end C07
end DepLogic
