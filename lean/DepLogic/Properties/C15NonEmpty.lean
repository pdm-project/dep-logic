import DepLogic.Properties.C15

/-!
# C15: `MarkerUnion.of` over a non-empty list of single markers never answers `EmptyMarker`

(the loops replace and append, they never delete) — and dually `MultiMarker.of` never answers `AnyMarker`.
Used by C12Flat (`exclude_disjItem_not_empty`) for `NoVanish` on conjunctions with disjunction members.
-/

namespace DepLogic
namespace C15
open M

theorem ofB_not_neutral (b : Bool) (fuel : Nat) (ms : List M) (hs : ∀ x ∈ ms, Kept b x) (hne : ms ≠ []) :
    isNeut b (ofB b fuel ms) = false := by
  cases fuel with
  | zero => rw [ofB_zero]; cases b <;> rfl
  | succ fuel =>
    -- flattening deletes nothing, and then the loop does not either
    refine (ofB_flatNF b fuel ms (loopB_inv b fuel [] _ (flatten_inv b fuel ms hs))).2 ?_
    rw [flatten_atomic _ _ _ [] fun x hx => (hs x hx).1]
    exact foldl_addNew_ne_nil ms [] (Or.inr hne)

theorem unionOfList_not_empty (fuel : Nat) (ms : List M) (hs : AllSingle ms) (hne : ms ≠ []) :
    (unionOfList fuel ms).isEmpty = false :=
  ofB_not_neutral false fuel ms (hs.kept _) hne

theorem multiOf_not_any (fuel : Nat) (ms : List M) (hs : AllSingle ms) (hne : ms ≠ []) :
    (multiOf fuel ms).isAny = false :=
  ofB_not_neutral true fuel ms (hs.kept _) hne

end C15
end DepLogic
