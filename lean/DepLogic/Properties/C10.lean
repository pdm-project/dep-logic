import DepLogic.Properties.C13
/-
  C10 — memoisation is transparent.

  Model of `functools.lru_cache(maxsize=None)`: an association list searched with the keys'
  Python equality (`M.beq`; CPython also compares hashes first, which agree for equal keys).
  A history is any sequence of calls; `runCached` threads the cache through it.
  Theorem `history_transparent`: whatever was called before, each call returns exactly what the
  un-memoised function returns – provided the keys are well-formed markers, for which Python
  equality is structural equality (C13.eq_of_beq).  That proviso is exactly the repaired defect:
  before the `fix:` commits, atoms equal as keys could carry different cached specifiers, grouped
  atoms equal as keys could differ in order, and literal-on-the-left atoms were equal to their
  mirrored spelling – see the two-step histories in known_findings.json.
-/
namespace DepLogic
namespace C10
open M

abbrev Cache (β : Type) := List (M × β)

def lookup {β : Type} (c : Cache β) (k : M) : Option β :=
  (c.find? fun p => M.beq k p.1).map (·.2)

def call {β : Type} (f : M → β) (c : Cache β) (k : M) : β × Cache β :=
  match lookup c k with
  | some v => (v, c)
  | none => (f k, (k, f k) :: c)

def runCached {β : Type} (f : M → β) : Cache β → List M → List β
  | _, [] => []
  | c, k :: ks => (call f c k).1 :: runCached f (call f c k).2 ks

def CacheOk {β : Type} (f : M → β) (c : Cache β) : Prop := ∀ p ∈ c, C13.AllWF p.1 ∧ p.2 = f p.1

/- Over any key type: `eq` is the keys' equality test, `W` the well-formedness under which `eq` decides identity. -/

section
variable {κ β : Type}

/-- `call` and `callN` are this, at `M.beq` and `M.beqList`, by unfolding -/
def callG (eq : κ → κ → Bool) (f : κ → β) (c : List (κ × β)) (k : κ) : β × List (κ × β) :=
  match (c.find? fun p => eq k p.1).map (·.2) with
  | some v => (v, c)
  | none => (f k, (k, f k) :: c)

theorem callG_ok {eq : κ → κ → Bool} {W : κ → Prop} (f : κ → β)
    (hE : ∀ a b, W a → W b → eq a b = true → a = b) (c : List (κ × β)) (k : κ)
    (hc : ∀ p ∈ c, W p.1 ∧ p.2 = f p.1) (hk : W k) :
    (callG eq f c k).1 = f k ∧ ∀ p ∈ (callG eq f c k).2, W p.1 ∧ p.2 = f p.1 := by
  unfold callG
  cases hf : c.find? (fun p => eq k p.1) with
  | none => exact ⟨rfl, List.forall_mem_cons.2 ⟨⟨hk, rfl⟩, hc⟩⟩
  | some p =>
    -- a hit: the key found is equal to `k`, hence, both being well-formed, identical
    have ⟨hw, hv⟩ := hc p (List.mem_of_find?_eq_some hf)
    exact ⟨hv.trans (congrArg f (hE k p.1 hk hw (List.find?_some (a := p) hf)).symm), hc⟩

theorem thread_map {σ : Type} {step : σ → κ → β × σ} {f : κ → β} {Inv : σ → Prop} {W : κ → Prop}
    (h : ∀ s k, Inv s → W k → (step s k).1 = f k ∧ Inv (step s k).2)
    (run : σ → List κ → List β) (hnil : ∀ s, run s [] = [])
    (hcons : ∀ s k ks, run s (k :: ks) = (step s k).1 :: run (step s k).2 ks) :
    ∀ hist s, Inv s → (∀ k ∈ hist, W k) → run s hist = hist.map f := by
  intro hist
  induction hist with
  | nil => exact fun s _ _ => hnil s
  | cons k ks ih =>
    intro s hs hk
    obtain ⟨hk, hks⟩ := List.forall_mem_cons.1 hk
    obtain ⟨h1, h2⟩ := h s k hs hk
    rw [hcons, h1, ih _ h2 hks, List.map_cons]

end

theorem call_ok {β : Type} (f : M → β) (c : Cache β) (k : M) (hc : CacheOk f c) (hk : C13.AllWF k) :
    (call f c k).1 = f k ∧ CacheOk f (call f c k).2 :=
  callG_ok f C13.eq_of_beq c k hc hk

/-- **transparency**: a memoised function answers every call of every history exactly as the
    plain function would, so the probe's result does not depend on what came before -/
theorem history_transparent {β : Type} (f : M → β) : ∀ (hist : List M) (c : Cache β), CacheOk f c →
    (∀ k ∈ hist, C13.AllWF k) → runCached f c hist = hist.map f :=
  thread_map (call_ok f) (runCached f) (fun _ => rfl) fun _ _ _ => rfl

/-- in particular: probe after any history = probe first in a fresh interpreter -/
theorem probe_independent {β : Type} (f : M → β) (hist : List M) (probe : M)
    (hk : ∀ k ∈ hist ++ [probe], C13.AllWF k) :
    (runCached f [] (hist ++ [probe])).getLast? = (runCached f [] [probe]).getLast? := by
  have h0 : CacheOk f [] := fun _ h => nomatch h
  rw [history_transparent f _ [] h0 hk,
      history_transparent f [probe] [] h0 fun k hk' => hk k (List.mem_append_right _ hk')]
  simp

/-- the defect, as a statement about the model: with keys that are equal but not identical the
    cache IS observable (the hypothesis `AllWF` cannot be dropped) -/
theorem not_transparent_without_wf :
    ∃ (f : M → String) (a b : M), M.beq a b = true ∧ runCached f [] [a, b] ≠ [a, b].map f := by
  refine ⟨fun m => match m with | .expr x => (match x.spec with | .gen _ => "gen" | .ver _ => "ver") | _ => "",
    .expr ⟨"os_name", .eq, "x", false, .gen ⟨.eq, "x"⟩⟩, .expr ⟨"os_name", .eq, "x", false, .ver .any⟩, by decide +kernel, by decide +kernel⟩

/-! ### functions of several markers

`_merge_single_markers(a, b, cls)` is memoised on the TUPLE of its arguments (`cnf` and `dnf`, the other memoised
functions of utils.py, take one marker); CPython compares the tuples member by member with `==` (`M.beqList`; the
class argument adds nothing to compare). The same theorem for such keys. -/

abbrev CacheN (β : Type) := List (List M × β)

def lookupN {β : Type} (c : CacheN β) (k : List M) : Option β :=
  (c.find? fun p => M.beqList k p.1).map (·.2)

def callN {β : Type} (f : List M → β) (c : CacheN β) (k : List M) : β × CacheN β :=
  match lookupN c k with
  | some v => (v, c)
  | none => (f k, (k, f k) :: c)

def runCachedN {β : Type} (f : List M → β) : CacheN β → List (List M) → List β
  | _, [] => []
  | c, k :: ks => (callN f c k).1 :: runCachedN f (callN f c k).2 ks

def CacheOkN {β : Type} (f : List M → β) (c : CacheN β) : Prop := ∀ p ∈ c, C13.AllWFL p.1 ∧ p.2 = f p.1

theorem callN_ok {β : Type} (f : List M → β) (c : CacheN β) (k : List M) (hc : CacheOkN f c) (hk : C13.AllWFL k) :
    (callN f c k).1 = f k ∧ CacheOkN f (callN f c k).2 :=
  callG_ok f C13.eqList_of_beq c k hc hk

theorem history_transparent_tuple {β : Type} (f : List M → β) : ∀ (hist : List (List M)) (c : CacheN β), CacheOkN f c →
    (∀ k ∈ hist, C13.AllWFL k) → runCachedN f c hist = hist.map f :=
  thread_map (callN_ok f) (runCachedN f) (fun _ => rfl) fun _ _ _ => rfl

example : C13.AllWFL [M.any, M.empty] := by simp [C13.AllWFL, C13.AllWF]

end C10
end DepLogic
