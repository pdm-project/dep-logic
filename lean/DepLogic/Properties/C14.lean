import DepLogic.Properties.C02
import DepLogic.Properties.C01
import DepLogic.Proofs.CutAlgebra
/-
  C14 — Boolean-algebra laws.

  Markers: the laws hold up to equivalence (both sides are satisfied by the same environments).
  They are corollaries of C02's soundness theorems, for every fuel, all markers over good atoms.

  Specifiers: every law is proved as EQUALITY OF THE RETURNED OBJECTS (Python `==`, model
  `Spec.beq`) for canonical operands (every reachable specifier is canonical: `C01.reach_canon`) over
  ANY linear preorder of bounds (`obj_*` theorems).  All but `or_assoc`, `absorb_or_and`, `or_and_distrib`
  and `de_morgan_or` are also proved as equality of the admitted sets (`spec_*_mem`): for arbitrary objects
  where only `&` occurs; where `|` or `~` occurs its operands are canonical (C01: `|` is only known not to
  raise, and `~` only known to be exact, on those).  Object equality is uniqueness of canonical forms
  over cuts (Proofs/CanonUnique.lean; false over the versions themselves, known finding G1) with C01's
  exactness read over cuts (`Den`, Proofs/CutAlgebra.lean).
-/
namespace DepLogic
namespace C14
open M

section markers
variable (env : Env) (he : EnvTotal env) (fuel : Nat) {a b c : M}
  (ha : GAll (Good env) a) (hb : GAll (Good env) b) (hc : GAll (Good env) c)
include he ha

/-! `sem env` carries `&` to `&&` and `|` to `||`, and results are again over good atoms (C02): rewriting with the two
    soundness theorems (the side conditions are the hypotheses) leaves the Boolean law of the same name. -/

theorem and_idem : sem env (M.and fuel a a) = sem env a := by
  simp only [C02.and_sound_final env he fuel, ha, Bool.and_self]

theorem or_idem : sem env (M.or fuel a a) = sem env a := by
  simp only [C02.or_sound_final env he fuel, ha, Bool.or_self]

include hb

theorem and_comm : sem env (M.and fuel a b) = sem env (M.and fuel b a) := by
  simp only [C02.and_sound_final env he fuel, ha, hb, Bool.and_comm]

theorem or_comm : sem env (M.or fuel a b) = sem env (M.or fuel b a) := by
  simp only [C02.or_sound_final env he fuel, ha, hb, Bool.or_comm]

theorem absorb_and_or : sem env (M.and fuel a (M.or fuel a b)) = sem env a := by
  simp only [C02.and_sound_final env he fuel, C02.or_sound_final env he fuel, ha, hb]
  cases sem env a <;> rfl

theorem absorb_or_and : sem env (M.or fuel a (M.and fuel a b)) = sem env a := by
  simp only [C02.and_sound_final env he fuel, C02.or_sound_final env he fuel, ha, hb]
  cases sem env a <;> rfl

include hc

theorem and_assoc : sem env (M.and fuel (M.and fuel a b) c) = sem env (M.and fuel a (M.and fuel b c)) := by
  simp only [C02.and_sound_final env he fuel, ha, hb, hc, Bool.and_assoc]

theorem or_assoc : sem env (M.or fuel (M.or fuel a b) c) = sem env (M.or fuel a (M.or fuel b c)) := by
  simp only [C02.or_sound_final env he fuel, ha, hb, hc, Bool.or_assoc]

theorem and_or_distrib :
    sem env (M.and fuel a (M.or fuel b c)) = sem env (M.or fuel (M.and fuel a b) (M.and fuel a c)) := by
  simp only [C02.and_sound_final env he fuel, C02.or_sound_final env he fuel, ha, hb, hc, Bool.and_or_distrib_left]

theorem or_and_distrib :
    sem env (M.or fuel a (M.and fuel b c)) = sem env (M.and fuel (M.or fuel a b) (M.or fuel a c)) := by
  simp only [C02.and_sound_final env he fuel, C02.or_sound_final env he fuel, ha, hb, hc, Bool.or_and_distrib_left]

end markers

theorem marker_laws_final (env : Env) (he : EnvTotal env) (fuel : Nat) (a b c : M)
    (ha : GAll (Good env) a) (hb : GAll (Good env) b) (hc : GAll (Good env) c) :
    sem env (M.and fuel a b) = sem env (M.and fuel b a) ∧
    sem env (M.or fuel a b) = sem env (M.or fuel b a) ∧
    sem env (M.and fuel (M.and fuel a b) c) = sem env (M.and fuel a (M.and fuel b c)) ∧
    sem env (M.or fuel (M.or fuel a b) c) = sem env (M.or fuel a (M.or fuel b c)) ∧
    sem env (M.and fuel a a) = sem env a ∧ sem env (M.or fuel a a) = sem env a ∧
    sem env (M.and fuel a (M.or fuel a b)) = sem env a ∧ sem env (M.or fuel a (M.and fuel a b)) = sem env a ∧
    sem env (M.and fuel a (M.or fuel b c)) = sem env (M.or fuel (M.and fuel a b) (M.and fuel a c)) ∧
    sem env (M.or fuel a (M.and fuel b c)) = sem env (M.and fuel (M.or fuel a b) (M.or fuel a c)) :=
  ⟨and_comm env he fuel ha hb, or_comm env he fuel ha hb, and_assoc env he fuel ha hb hc, or_assoc env he fuel ha hb hc,
   and_idem env he fuel ha, or_idem env he fuel ha, absorb_and_or env he fuel ha hb, absorb_or_and env he fuel ha hb,
   and_or_distrib env he fuel ha hb hc, or_and_distrib env he fuel ha hb hc⟩

section specs
open Spec
variable {α : Type} [LinPre α]

theorem spec_and_comm_mem (a b : Spec α) (v : α) : (a.and b).mem v ↔ (b.and a).mem v := by
  rw [C01.and_exact, C01.and_exact]; exact And.comm

theorem spec_and_assoc_mem (a b c : Spec α) (v : α) : ((a.and b).and c).mem v ↔ (a.and (b.and c)).mem v := by
  simp only [C01.and_exact]; exact _root_.and_assoc

theorem spec_and_idem_mem (a : Spec α) (v : α) : (a.and a).mem v ↔ a.mem v := by
  rw [C01.and_exact]; exact and_self_iff

theorem spec_or_comm_mem (a b : Spec α) (ha : Canon a) (hb : Canon b) :
    ∃ r s, a.or b = some r ∧ b.or a = some s ∧ ∀ v, r.mem v ↔ s.mem v := by
  obtain ⟨r, h1, h2⟩ := C01.or_exact a b ha hb
  obtain ⟨s, h3, h4⟩ := C01.or_exact b a hb ha
  exact ⟨r, s, h1, h3, fun v => by rw [h2, h4]; exact Or.comm⟩

theorem spec_or_idem_mem (a : Spec α) (ha : Canon a) : ∃ r, a.or a = some r ∧ ∀ v, r.mem v ↔ a.mem v := by
  obtain ⟨r, h1, h2⟩ := C01.or_exact a a ha ha
  exact ⟨r, h1, fun v => by rw [h2]; exact or_self_iff⟩

theorem spec_absorb_mem (a b : Spec α) (ha : Canon a) (hb : Canon b) :
    ∃ r, a.or b = some r ∧ ∀ v, (a.and r).mem v ↔ a.mem v := by
  obtain ⟨r, h1, h2⟩ := C01.or_exact a b ha hb
  refine ⟨r, h1, fun v => ?_⟩
  rw [C01.and_exact, h2]
  exact and_iff_left_of_imp Or.inl

theorem spec_distrib_mem (a b c : Spec α) (hb : Canon b) (hc : Canon c) :
    ∃ r, b.or c = some r ∧ ∀ v, (a.and r).mem v ↔ ((a.and b).mem v ∨ (a.and c).mem v) := by
  obtain ⟨r, h1, h2⟩ := C01.or_exact b c hb hc
  refine ⟨r, h1, fun v => ?_⟩
  simp only [C01.and_exact, h2]
  exact and_or_left

theorem spec_invert_involution_mem (a : Spec α) (ha : Canon a) (v : α) : (a.invert.invert).mem v ↔ a.mem v := by
  rw [C01.invert_exact _ (invert_canon _ ha), C01.invert_exact _ ha]
  exact Decidable.not_not

theorem spec_de_morgan_and_mem (a b : Spec α) (ha : Canon a) (hb : Canon b) (v : α) :
    ((a.and b).invert).mem v ↔ (a.invert.mem v ∨ b.invert.mem v) := by
  rw [C01.invert_exact _ (and_canon a b ha hb), C01.and_exact, C01.invert_exact _ ha, C01.invert_exact _ hb]
  exact Classical.not_and_iff_not_or_not

theorem spec_complement_mem (a : Spec α) (ha : Canon a) (v : α) :
    ¬ (a.and a.invert).mem v ∧ ∃ r, a.or a.invert = some r ∧ r.mem v := by
  obtain ⟨r, h1, h2⟩ := C01.or_exact a a.invert ha (invert_canon a ha)
  have hi := C01.invert_exact a ha v
  exact ⟨fun h => hi.1 ((C01.and_exact _ _ v).1 h).2 ((C01.and_exact _ _ v).1 h).1, r, h1,
    (h2 v).2 ((Classical.em _).imp_right hi.2)⟩

end specs

section objects
open Spec
variable {α : Type} [LinPre α] (a0 : α)
include a0

theorem obj_and_comm (a b : Spec α) (ha : Canon a) (hb : Canon b) : (a.and b).beq (b.and a) = true :=
  (ha.den.and hb.den).beq a0 (hb.den.and ha.den) fun _ _ => And.comm

theorem obj_and_assoc (a b c : Spec α) (ha : Canon a) (hb : Canon b) (hc : Canon c) :
    ((a.and b).and c).beq (a.and (b.and c)) = true :=
  ((ha.den.and hb.den).and hc.den).beq a0 (ha.den.and (hb.den.and hc.den))
    fun _ _ => _root_.and_assoc

theorem obj_and_idem (a : Spec α) (ha : Canon a) : (a.and a).beq a = true :=
  (ha.den.and ha.den).beq a0 ha.den fun _ _ => and_self_iff

theorem obj_or_comm (a b : Spec α) (ha : Canon a) (hb : Canon b) :
    ∃ r s, a.or b = some r ∧ b.or a = some s ∧ r.beq s = true := by
  obtain ⟨r, h1, d1⟩ := ha.den.or hb.den
  obtain ⟨s, h2, d2⟩ := hb.den.or ha.den
  exact ⟨r, s, h1, h2, d1.beq a0 d2 fun _ _ => Or.comm⟩

theorem obj_or_assoc (a b c : Spec α) (ha : Canon a) (hb : Canon b) (hc : Canon c) :
    ∃ ab bc l r, a.or b = some ab ∧ b.or c = some bc ∧ ab.or c = some l ∧ a.or bc = some r ∧ l.beq r = true := by
  obtain ⟨ab, h1, d1⟩ := ha.den.or hb.den
  obtain ⟨bc, h2, d2⟩ := hb.den.or hc.den
  obtain ⟨l, h3, d3⟩ := d1.or hc.den
  obtain ⟨r, h4, d4⟩ := ha.den.or d2
  exact ⟨ab, bc, l, r, h1, h2, h3, h4, d3.beq a0 d4 fun _ _ => _root_.or_assoc⟩

theorem obj_or_idem (a : Spec α) (ha : Canon a) : ∃ r, a.or a = some r ∧ r.beq a = true := by
  obtain ⟨r, h1, d1⟩ := ha.den.or ha.den
  exact ⟨r, h1, d1.beq a0 ha.den fun _ _ => or_self_iff⟩

theorem obj_absorb_and_or (a b : Spec α) (ha : Canon a) (hb : Canon b) :
    ∃ r, a.or b = some r ∧ (a.and r).beq a = true := by
  obtain ⟨r, h1, d1⟩ := ha.den.or hb.den
  exact ⟨r, h1, (ha.den.and d1).beq a0 ha.den fun _ _ => and_iff_left_of_imp .inl⟩

theorem obj_absorb_or_and (a b : Spec α) (ha : Canon a) (hb : Canon b) :
    ∃ r, a.or (a.and b) = some r ∧ r.beq a = true := by
  obtain ⟨r, h1, d1⟩ := ha.den.or (ha.den.and hb.den)
  exact ⟨r, h1, d1.beq a0 ha.den fun _ _ => or_iff_left_of_imp And.left⟩

theorem obj_and_or_distrib (a b c : Spec α) (ha : Canon a) (hb : Canon b) (hc : Canon c) :
    ∃ bc r, b.or c = some bc ∧ (a.and b).or (a.and c) = some r ∧ (a.and bc).beq r = true := by
  obtain ⟨bc, h1, d1⟩ := hb.den.or hc.den
  obtain ⟨r, h2, d2⟩ := (ha.den.and hb.den).or (ha.den.and hc.den)
  exact ⟨bc, r, h1, h2, (ha.den.and d1).beq a0 d2 fun _ _ => and_or_left⟩

theorem obj_or_and_distrib (a b c : Spec α) (ha : Canon a) (hb : Canon b) (hc : Canon c) :
    ∃ l ab ac, a.or (b.and c) = some l ∧ a.or b = some ab ∧ a.or c = some ac ∧ l.beq (ab.and ac) = true := by
  obtain ⟨l, h1, d1⟩ := ha.den.or (hb.den.and hc.den)
  obtain ⟨ab, h2, d2⟩ := ha.den.or hb.den
  obtain ⟨ac, h3, d3⟩ := ha.den.or hc.den
  exact ⟨l, ab, ac, h1, h2, h3, d1.beq a0 (d2.and d3) fun _ _ => or_and_left⟩

theorem obj_invert_involution (a : Spec α) (ha : Canon a) : (a.invert.invert).beq a = true :=
  ha.den.invert.invert.beq a0 ha.den fun _ _ => Classical.not_not

theorem obj_de_morgan_and (a b : Spec α) (ha : Canon a) (hb : Canon b) :
    ∃ r, a.invert.or b.invert = some r ∧ ((a.and b).invert).beq r = true := by
  obtain ⟨r, h1, d1⟩ := ha.den.invert.or hb.den.invert
  exact ⟨r, h1, (ha.den.and hb.den).invert.beq a0 d1 fun _ _ => Classical.not_and_iff_not_or_not⟩

theorem obj_de_morgan_or (a b : Spec α) (ha : Canon a) (hb : Canon b) :
    ∃ r, a.or b = some r ∧ (r.invert).beq (a.invert.and b.invert) = true := by
  obtain ⟨r, h1, d1⟩ := ha.den.or hb.den
  exact ⟨r, h1, d1.invert.beq a0 (ha.den.invert.and hb.den.invert) fun _ _ => not_or⟩

/-- `a & ~a` IS `EmptySpecifier()` and `a | ~a` is universal (`is_any()`), as objects -/
theorem obj_complement (a : Spec α) (ha : Canon a) :
    a.and a.invert = .empty ∧ ∃ r, a.or a.invert = some r ∧ r.isAny = true := by
  obtain ⟨r, h1, d1⟩ := ha.den.or ha.den.invert
  exact ⟨(ha.den.and ha.den.invert).eq_empty a0 fun _ _ => and_not_self,
    r, h1, d1.isAny a0 fun _ _ => Classical.em _⟩

end objects

/-- at PEP 440 versions (non-vacuity of the `a0` parameter and of canonicity) -/
example : (C01.exA.and C01.exB).beq (C01.exB.and C01.exA) = true :=
  obj_and_comm ({ release := [0] } : Ver) _ _ (by decide) (by decide)

end C14
end DepLogic
