import DepLogic.Properties.C16
import DepLogic.Properties.C08
import DepLogic.Properties.C08Compat
/-
  C16, first sentence, through the public function — if requires_python of B admits every position that A's admits
  (other fields equal), every wheel `EnvSpec.compatibility` accepts for A is accepted for B, with the same platform score
  and a python score at least as good: `compatibility_widen`.  `a0 : Ver` is any version, for C05's cut lemmas.
-/
namespace DepLogic
namespace C16
open Spec C08

theorem evalPy_widen (a0 : Ver) (A B : Spec Ver) (hA : Canon A) (hB : Canon B)
    (hsub : ∀ x s, A.memC x s → B.memC x s) (impl : Option Impl) (t : PyAbi) (sc : Nat × Nat × Nat)
    (h : evalPyCore A impl t = some sc) : evalPyCore B impl t = some sc := by
  obtain ⟨hg, w, hw, hne, hs⟩ := (evalPyCore_eq_some ..).1 h
  exact (evalPyCore_eq_some ..).2 ⟨hg, w, hw, widen_keeps_cuts a0 w A B (wheelSpec_canon t w hw) hA hB hsub hne, hs⟩

theorem compatibility_widen (a0 : Ver) (eA eB : EnvSpec) (hA : Canon eA.requiresPython) (hB : Canon eB.requiresPython)
    (hsub : ∀ x s, eA.requiresPython.memC x s → eB.requiresPython.memC x s)
    (hplat : eA.platform = eB.platform) (himpl : eA.impl = eB.impl)
    (py abi plat : List String) (ps : Sc) (s : Int) (h : compatibility eA py abi plat = .score ps s) :
    ∃ ps', compatibility eB py abi plat = .score ps' s ∧ lexLt ps' ps = false := by
  obtain ⟨hm, herr, hb⟩ := (compatibility_eq_score ..).1 h
  -- the platform side does not see requires_python
  have hplatEq : evaluatePlatform eB = evaluatePlatform eA := by
    funext x; unfold evaluatePlatform; rw [hplat]
  have herrB : platError eB plat = false := by rw [← herr]; unfold platError; rw [hplatEq]
  have hbB : bestPlat (platScores eB plat) = some s := by rw [← hb]; unfold platScores; rw [hplatEq]
  -- every score of A is a score of B, so B has a maximum, and it is not below A's
  have hsub' : ∀ sc ∈ pyScores eA py abi, sc ∈ pyScores eB py abi := by
    intro sc hsc
    obtain ⟨p, hp, a, ha, hpa⟩ := (mem_pyScores ..).1 hsc
    refine (mem_pyScores ..).2 ⟨p, hp, a, ha, ?_⟩
    unfold evaluatePython at hpa ⊢
    rw [← himpl]
    exact evalPy_widen a0 _ _ hA hB hsub _ _ sc hpa
  have hps := hsub' ps ((maxScore_spec _).2 ps hm).1
  cases hmB : maxScore (pyScores eB py abi) with
  | none => rw [(maxScore_spec _).1.1 hmB] at hps; cases hps
  | some ps' => exact ⟨ps', (compatibility_eq_score ..).2 ⟨hmB, herrB, hbB⟩, ((maxScore_spec _).2 ps' hmB).2 ps hps⟩

end C16
end DepLogic
