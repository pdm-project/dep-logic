import DepLogic.Model.MarkerText
import DepLogic.Properties.C07Quote
/-
  C07, one atom as text — for EVERY atom over the environment-variable names (every operator, either operand order,
  every string value), packaging's `_parse_marker_item` reads the text `MarkerExpression.__str__` writes back as the
  atom's own (lhs, op, rhs) triple, provided the text after the atom does not continue a name: `atom_text`.  Then what stands between atoms: the joiners ` and ` / ` or ` as text
  (`opText`) and as tokens (`opItem`), and how `readMAtom` / `readBoolOp` read one atom and one joiner.  Whole texts,
  with parentheses, are read in C07Nested.
-/
namespace DepLogic
namespace C07
open Quote MText M

theorem skipWs_cons (c : Char) (r : List Char) (h : isWs c = false) : skipWs (c :: r) = c :: r := by
  simp [skipWs, List.dropWhile, h]

theorem skipWs_space (r : List Char) : skipWs (' ' :: r) = skipWs r := by
  simp [skipWs, List.dropWhile, isWs]

def NoBlank (x : List Char) : Prop := ∃ c t, x = c :: t ∧ isWs c = false

theorem NoBlank.skip {x : List Char} (h : NoBlank x) (r : List Char) :
    skipWs (x ++ r) = x ++ r ∧ skipWs (' ' :: (x ++ r)) = x ++ r := by
  obtain ⟨c, t, rfl, hc⟩ := h
  have : skipWs (c :: t ++ r) = c :: t ++ r := skipWs_cons _ _ hc
  exact ⟨this, (skipWs_space _).trans this⟩

/-- the names `MarkerExpression.name` takes (packaging has already replaced the deprecated spellings): the same list as
    `MText.varNames` -/
def canonNames : List (List Char) := varNames

/-- what is particular to the table of names; a Boolean, so that the table is checked by evaluation (`canon_ok`) -/
def nameOk (n : List Char) : Bool := !n.isEmpty && n.all isVarChar && (aliases.lookup n).isNone

theorem canon_ok : ∀ n ∈ canonNames, nameOk n = true := by
  -- a literal is `String.ofList` of its characters: read them off (for the kernel, decoding UTF-8 is 20 times the table)
  unfold canonNames varNames nameOk aliases
  repeat rw [String.toList_ofList]
  decide +kernel

theorem isVarChar_plain (c : Char) (h : isVarChar c = true) : isWs c = false ∧ c ≠ '"' ∧ c ≠ '\'' ∧ c ≠ '(' := by
  refine ⟨?_, ?_, ?_, ?_⟩
  · cases hw : isWs c with
    | false => rfl
    | true =>
      simp only [isWs, Bool.or_eq_true, beq_iff_eq] at hw
      rcases hw with rfl | rfl <;> revert h <;> decide
  all_goals rintro rfl; revert h; decide

/-- `x` is written for the operand `(lv, v)`; `Stop`: what may follow for `_parse_marker_var` to end there -/
structure Operand (x : List Char) (lv : Bool) (v : List Char) (Stop : List Char → Prop) : Prop where
  head : ∃ c t, x = c :: t ∧ isWs c = false ∧ c ≠ '('
  read : ∀ rest, Stop rest → readVar (x ++ rest) = some (lv, v, rest)

theorem Operand.noBlank {x v : List Char} {lv : Bool} {S : List Char → Prop} (h : Operand x lv v S) : NoBlank x :=
  let ⟨c, t, e, hc, _⟩ := h.head; ⟨c, t, e, hc⟩

theorem Operand.name (n : List Char) (hn : n ∈ canonNames) :
    Operand n true n fun rest => ∀ c ∈ rest.head?, isVarChar c = false := by
  have hok := canon_ok n hn
  simp only [nameOk, Bool.and_eq_true, List.all_eq_true, Option.isNone_iff_eq_none] at hok
  obtain _ | ⟨c, cs⟩ := n
  · cases hok.1.1
  obtain ⟨hws, hq1, hq2, hpar⟩ := isVarChar_plain c (hok.1.2 c (by simp))
  refine ⟨⟨c, cs, rfl, hws, hpar⟩, fun rest hr => ?_⟩
  obtain ⟨ht, hdrop⟩ := Lex.run_then isVarChar (c :: cs) rest hok.1.2 hr
  have hq : (decide (c = '"') || decide (c = '\'')) = false := by simp [hq1, hq2]
  unfold readVar
  simp only [List.cons_append, hq, Bool.false_eq_true, if_false]
  rw [show c :: (cs ++ rest) = (c :: cs) ++ rest from rfl, ht, hdrop, hok.2]
  simp only [Option.getD_none]
  exact if_pos (List.contains_iff_mem.2 hn)

theorem Operand.lit (v : List Char) : Operand (quoteL v) false v fun _ => True := by
  obtain ⟨q, body, hshape, hq, _, _⟩ := quote_shape v
  have hq' : (decide (q = '"') || decide (q = '\'')) = true := by simpa using hq
  refine ⟨⟨q, body ++ [q], by simpa using hshape, ?_, ?_⟩, fun rest _ => ?_⟩
  iterate 2 rcases hq with rfl | rfl <;> decide
  have hr := read_quote v rest
  rw [hshape] at hr ⊢
  unfold readVar
  simp only [List.cons_append, hq', if_true]
  simp only [List.cons_append] at hr
  rw [hr]
  rfl

theorem readOp_str (op : MOp) (r : List Char) : readOp (op.str.toList ++ ' ' :: r) = some (op.str.toList, ' ' :: r) := by
  cases op <;> rfl

theorem mopStr_noBlank (op : MOp) : NoBlank op.str.toList := by
  cases op <;> exact ⟨_, _, rfl, by decide⟩

theorem readAtom_three {x z vx vz : List Char} {lx lz : Bool} {Sx Sz : List Char → Prop} (o : MOp) (rest : List Char)
    (hx : Operand x lx vx Sx) (sx : ∀ s, Sx (' ' :: s)) (hz : Operand z lz vz Sz) (sz : Sz rest) :
    readAtom (x ++ ' ' :: (o.str.toList ++ ' ' :: (z ++ rest))) =
      some (.atom lx (String.ofList vx) o.str (String.ofList vz), skipWs rest) := by
  unfold readAtom
  rw [(hx.noBlank.skip _).1, hx.read _ (sx _)]
  simp only
  rw [((mopStr_noBlank o).skip _).2, readOp_str]
  simp only
  rw [(hz.noBlank.skip _).2, hz.read _ sz]
  simp

theorem atom_text (a : Atom) (rest : List Char) (hn : a.name.toList ∈ canonNames)
    (hrest : ∀ c ∈ rest.head?, isVarChar c = false) :
    readAtom (atomStrL a ++ rest) = some (atomItem a, skipWs rest) := by
  unfold atomStrL atomItem
  cases a.reversed
  · -- name op "lit": a blank follows the name
    simp only [Bool.false_eq_true, if_false, List.append_assoc, List.cons_append]
    rw [readAtom_three a.op rest (.name _ hn) (fun s => by simp [isVarChar, isWord]) (.lit _) trivial]
    simp
  · simp only [if_true, List.append_assoc, List.cons_append]
    rw [readAtom_three a.op.reflect rest (.lit _) (fun _ => trivial) (.name _ hn) hrest]
    simp

theorem atomStrL_head (a : Atom) (hn : a.name.toList ∈ canonNames) :
    ∃ c t, atomStrL a = c :: t ∧ isWs c = false ∧ c ≠ '(' := by
  unfold atomStrL
  cases a.reversed with
  | true =>
    obtain ⟨c, t, e, h⟩ := (Operand.lit a.value.toList).head
    exact ⟨c, _, by rw [if_pos rfl, e]; rfl, h⟩
  | false =>
    obtain ⟨c, t, e, h⟩ := (Operand.name _ hn).head
    exact ⟨c, _, by rw [if_neg nofun, e]; rfl, h⟩

/-- so `atom_text` is about the string the model's `__str__` builds -/
theorem atomStr_toList (a : Atom) : a.str.toList = atomStrL a := by
  unfold Atom.str atomStrL quoteS
  by_cases h : a.reversed = true <;> simp [h, String.toList_append]

/-- non-vacuity: `os_name == "a\"b"` in front of more text -/
example : readAtom (atomStrL ⟨"os_name", .eq, "a\"b", false, .gen ⟨.eq, "a\"b"⟩⟩ ++ " and x".toList) =
    some (.atom true "os_name" "==" "a\"b", "and x".toList) := by
  -- the name is found in the table as written: no string is evaluated for it
  rw [atom_text _ _ (by unfold canonNames varNames; simp only [List.mem_cons, true_or, or_true]) (by decide +kernel)]
  rfl

/-- `readMAtom` takes the item branch, since the atom does not start with `(` -/
theorem readMAtom_atom (f : Nat) (a : Atom) (s rest : List Char) (hn : a.name.toList ∈ canonNames)
    (hrest : ∀ c ∈ rest.head?, isVarChar c = false) (hs : skipWs s = atomStrL a ++ rest) :
    readMAtom (f + 1) s = some (atomItem a, skipWs rest) := by
  obtain ⟨c, t, hct, _, hpar⟩ := atomStrL_head a hn
  rw [readMAtom, hs, ← atom_text a rest hn hrest, hct]
  simp only [List.cons_append]
  split
  · rename_i r heq
    exact absurd (List.cons.inj heq).1 hpar
  · rfl

def opText (isAnd : Bool) : List Char := if isAnd then [' ', 'a', 'n', 'd', ' '] else [' ', 'o', 'r', ' ']
def opItem (isAnd : Bool) : PItem := if isAnd then .and_ else .or_

def tailText (tl : List (Bool × Atom)) : List Char := tl.flatMap fun p => opText p.1 ++ atomStrL p.2
def tailItems (tl : List (Bool × Atom)) : List PItem := tl.flatMap fun p => [opItem p.1, atomItem p.2]

def seqText (a0 : Atom) (tl : List (Bool × Atom)) : List Char := atomStrL a0 ++ tailText tl
def seqItems (a0 : Atom) (tl : List (Bool × Atom)) : List PItem := atomItem a0 :: tailItems tl

theorem readBoolOp_opText (b : Bool) (r : List Char) :
    readBoolOp (skipWs (opText b ++ r)) = some (opItem b, ' ' :: r) := by
  cases b <;> simp [opText, skipWs, List.dropWhile, isWs, readBoolOp, opItem, isWord]

example : seqText ⟨"os_name", .eq, "nt", false, .gen ⟨.eq, "nt"⟩⟩ [(true, ⟨"sys_platform", .ne, "x", false, .gen ⟨.ne, "x"⟩⟩)] =
    "os_name == \"nt\" and sys_platform != \"x\"".toList := by
  -- as in `canon_ok`
  simp only [seqText, tailText, atomStrL, MOp.str, List.flatMap_cons, List.flatMap_nil, Bool.false_eq_true, if_false]
  repeat rw [String.toList_ofList]
  decide +kernel

end C07
end DepLogic
