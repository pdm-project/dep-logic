import DepLogic.Proofs.FromClause
/-
  C17 — the specifier parser accepts exactly PEP 440 specifier sets (plus `||`, `<empty>`).

  Which *strings* packaging's `SpecifierSet` accepts is packaging's (trusted, exercised by the
  differential stream).  What is proved here is the part dep-logic adds on top: once a clause
  is accepted, the translation to a range never fails (the defect repaired by the `fix:`
  "compute wildcard and compatible-release bounds from the parsed version").
-/
namespace DepLogic
namespace C17

/-- of what packaging's grammar guarantees about an accepted clause, the part the translation
    needs: a release of at least one component, for `~=` two -/
def ValidClause (c : Clause Ver) : Prop :=
  1 ≤ c.ver.release.length ∧ (c.op = .compat → 2 ≤ c.ver.release.length)

theorem nextSeries_isSome (v : Ver) (n : Nat) (h1 : 1 ≤ n) (h2 : 1 ≤ v.release.length) :
    (v.nextSeries n).isSome = true :=
  Option.isSome_iff_exists.2 (VOrd.nextSeries_some v n h1 h2)

/-- `_from_pkg_specifier` is total on every accepted clause: the `ValueError` / `IndexError` of the
    wildcard and `~=` arithmetic cannot occur -/
theorem fromClause_total (c : Clause Ver) (h : ValidClause c) : (fromClause c).isSome = true := by
  rw [fromClause_eq, Option.isSome_map]
  obtain ⟨h1, h2⟩ := h
  rcases c with ⟨op, v, w⟩
  -- only `~=V` and the wildcards compute a next series: of `V` without its last component, and of `V`
  have series : ∀ n lo, 1 ≤ n → ((v.nextSeries n).map fun mx =>
      ({ min := some lo, max := some mx, incMin := true, incMax := false } : Range Ver)).isSome = true :=
    fun n lo hn => by rw [Option.isSome_map]; exact nextSeries_isSome v n hn h1
  cases op
  case compat => exact series _ _ (by have := h2 rfl; omega)
  case eq => cases w; rfl; exact series _ _ h1
  case ne => cases w; rfl; exact series _ _ h1
  all_goals rfl

/-- whole comma lists: the fold of `&` never fails either (`Spec.and` is total) -/
theorem fromSpecifierSet_total (cs : List (Clause Ver)) (h : ∀ c ∈ cs, ValidClause c) :
    (fromSpecifierSet cs).isSome = true := by
  rw [fromSpecifierSet_eq]
  generalize Spec.range {} = acc
  induction cs generalizing acc with
  | nil => rfl
  | cons c rest ih =>
    obtain ⟨s, hs⟩ := Option.isSome_iff_exists.1 (fromClause_total c (h c (by simp)))
    rw [fssFrom_cons, hs]
    exact ih (fun c' hc' => h c' (by simp [hc'])) _

example : ValidClause { op := .compat, ver := { epoch := 1, release := [2, 3] } } := by
  simp [ValidClause]
example : fromClause { op := .eq, ver := { epoch := 1, release := [2] }, wild := true } =
    some (.range { min := some { epoch := 1, release := [2, 0] }, max := some { epoch := 1, release := [3, 0] },
                   incMin := true, incMax := false,
                   text := some { op := .eq, ver := { epoch := 1, release := [2] }, wild := true } }) := by
  decide

end C17
end DepLogic
