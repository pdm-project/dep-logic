import DepLogic.Model.Tags
/-
  C08 / C09 — `EnvSpec.compatibility`: "max over python x abi combinations, then platform".
  Both maxima are core's `List.max?` (`maxScore_eq`, `bestPlat_eq`), of Python's order on score tuples and of `Int`:
  the result is the greatest element (`List.max?_eq_some_iff`), so it depends on the set of elements only
  (`max?_congr`).  So the platform component is the BEST accepted tag, not the first (what seed C09g breaks), and the
  verdict does not depend on the order in which a wheel lists its tags (`compatibility_perm`: compressed tag sets are sets).
-/
namespace DepLogic
namespace C08

abbrev Sc := Nat × Nat × Nat

/-- the comparison `maxScore` folds with -/
def lexLt (a x : Sc) : Bool :=
  a.1 < x.1 || (a.1 == x.1 && (a.2.1 < x.2.1 || (a.2.1 == x.2.1 && a.2.2 < x.2.2)))

theorem lexLt_iff (a x : Sc) : lexLt a x = true ↔
    a.1 < x.1 ∨ a.1 = x.1 ∧ (a.2.1 < x.2.1 ∨ a.2.1 = x.2.1 ∧ a.2.2 < x.2.2) := by
  simp only [lexLt, Bool.or_eq_true, Bool.and_eq_true, decide_eq_true_eq, beq_iff_eq]

theorem lexLt_irrefl (a : Sc) : lexLt a a = false := by
  rw [← Bool.not_eq_true, lexLt_iff]; omega

theorem lexLt_trans_le {a b c : Sc} (h1 : lexLt b a = false) (h2 : lexLt c b = false) : lexLt c a = false := by
  rw [← Bool.not_eq_true, lexLt_iff] at *; omega

theorem lexLt_asymm {a b : Sc} (h : lexLt a b = true) : lexLt b a = false := by
  rw [← Bool.not_eq_true, lexLt_iff]; rw [lexLt_iff] at h; omega

theorem lexLt_antisymm {a b : Sc} (h1 : lexLt a b = false) (h2 : lexLt b a = false) : a = b := by
  rw [← Bool.not_eq_true, lexLt_iff] at h1 h2
  exact Prod.ext (by omega) (Prod.ext (by omega) (by omega))

theorem foldl_max? {α : Type} [Max α] (step : Option α → α → Option α) (h0 : ∀ x, step none x = some x)
    (h1 : ∀ a x, step (some a) x = some (max a x)) : ∀ l : List α, l.foldl step none = l.max?
  | [] => rfl
  | y :: ys => by rw [List.foldl_cons, h0]; exact List.foldl_hom some fun a x => h1 a x

theorem max?_congr {α : Type} [Max α] [LE α] [Std.IsLinearOrder α] [Std.LawfulOrderMax α] {l l' : List α}
    (h : ∀ x, x ∈ l ↔ x ∈ l') : l.max? = l'.max? :=
  Option.ext fun m => by simp only [List.max?_eq_some_iff, h]

/-- Python's order on score tuples: `x ≤ m` as `maxScore` tests it, `max` as it keeps the better of two, so that core's
    lemmas about `List.max?` speak of `maxScore` -/
local instance : LE Sc := ⟨fun x m => lexLt m x = false⟩
local instance : Max Sc := ⟨fun a x => if lexLt a x then x else a⟩

local instance : Std.IsLinearOrder Sc :=
  .of_le ⟨fun _ _ h1 h2 => lexLt_antisymm h2 h1⟩ ⟨lexLt_trans_le⟩
    ⟨fun a b => by cases h : lexLt a b; exact .inr h; exact .inl (lexLt_asymm h)⟩

theorem max_def (a x : Sc) : max a x = if lexLt a x then x else a := rfl

local instance : Std.LawfulOrderMax Sc :=
  .of_le_max
    (fun a b => by rw [max_def]; cases h : lexLt a b; exact lexLt_irrefl a; exact lexLt_asymm h)
    (fun a b => by rw [max_def]; cases h : lexLt a b; exact h; exact lexLt_irrefl b)
    (fun a b => by rw [max_def]; cases lexLt a b; exact .inl rfl; exact .inr rfl)

theorem maxScore_eq (l : List Sc) : maxScore l = l.max? :=
  foldl_max? _ (fun _ => rfl) (fun a x => (apply_ite some (lexLt a x = true) x a).symm) l

theorem maxScore_spec (l : List Sc) :
    (maxScore l = none ↔ l = []) ∧
    ∀ m, maxScore l = some m → m ∈ l ∧ ∀ x ∈ l, lexLt m x = false := by
  rw [maxScore_eq]
  exact ⟨List.max?_eq_none_iff, fun _ => List.max?_eq_some_iff.1⟩

/-- the fold `compatibility` uses for the platform component -/
def stepBest (acc : Option Int) (x : Int) : Option Int :=
  match acc with
  | none => some x
  | some a => some (max a x)

def bestPlat (l : List Int) : Option Int := l.foldl stepBest none

theorem bestPlat_eq (l : List Int) : bestPlat l = l.max? := foldl_max? stepBest (fun _ => rfl) (fun _ _ => rfl) l

theorem bestPlat_spec (l : List Int) :
    (bestPlat l = none ↔ l = []) ∧ ∀ m, bestPlat l = some m → m ∈ l ∧ ∀ x ∈ l, x ≤ m := by
  rw [bestPlat_eq]
  exact ⟨List.max?_eq_none_iff, fun _ => List.max?_eq_some_iff.1⟩

def pyScores (e : EnvSpec) (py abi : List String) : List Sc :=
  (py.flatMap fun p => abi.map fun a => (p, a)).filterMap fun pa => evaluatePython e pa.1 pa.2

def platScores (e : EnvSpec) (plat : List String) : List Int :=
  ((plat.map (evaluatePlatform e)).filterMap id).filterMap id

theorem mem_pyScores (e : EnvSpec) (py abi : List String) (s : Sc) :
    s ∈ pyScores e py abi ↔ ∃ p ∈ py, ∃ a ∈ abi, evaluatePython e p a = some s := by
  simp [pyScores, and_assoc]

theorem mem_platScores (e : EnvSpec) (plat : List String) (s : Int) :
    s ∈ platScores e plat ↔ ∃ t ∈ plat, evaluatePlatform e t = some (some s) := by
  simp [platScores]

/-- a `PlatformError` escapes from some platform tag -/
def platError (e : EnvSpec) (plat : List String) : Bool := (plat.map (evaluatePlatform e)).any Option.isNone

theorem compatibility_eq (e : EnvSpec) (py abi plat : List String) :
    compatibility e py abi plat =
      match maxScore (pyScores e py abi) with
      | none => .none
      | some ps =>
        if platError e plat then .error
        else match bestPlat (platScores e plat) with
          | none => .none
          | some s => .score ps s := rfl

theorem compatibility_eq_score (e : EnvSpec) (py abi plat : List String) (ps : Sc) (s : Int) :
    compatibility e py abi plat = .score ps s ↔
      maxScore (pyScores e py abi) = some ps ∧ platError e plat = false ∧ bestPlat (platScores e plat) = some s := by
  rw [compatibility_eq]
  cases maxScore (pyScores e py abi) <;> cases platError e plat <;> cases bestPlat (platScores e plat) <;> simp

theorem compatibility_eq_none (e : EnvSpec) (py abi plat : List String) :
    compatibility e py abi plat = .none ↔
      pyScores e py abi = [] ∨ (platError e plat = false ∧ platScores e plat = []) := by
  rw [compatibility_eq, ← (maxScore_spec _).1, ← (bestPlat_spec _).1]
  cases maxScore (pyScores e py abi) <;> cases platError e plat <;> cases bestPlat (platScores e plat) <;> simp

/-- what a returned score says: the python part is the lexicographically BEST loadable
    python x abi combination, the platform part the BEST accepted platform tag -/
theorem compatibility_score (e : EnvSpec) (py abi plat : List String) (ps : Sc) (s : Int)
    (h : compatibility e py abi plat = .score ps s) :
    (∃ p ∈ py, ∃ a ∈ abi, evaluatePython e p a = some ps) ∧
    (∀ p ∈ py, ∀ a ∈ abi, ∀ sc, evaluatePython e p a = some sc → lexLt ps sc = false) ∧
    (∃ t ∈ plat, evaluatePlatform e t = some (some s)) ∧
    (∀ t ∈ plat, ∀ s', evaluatePlatform e t = some (some s') → s' ≤ s) := by
  obtain ⟨hm, _, hb⟩ := (compatibility_eq_score ..).1 h
  obtain ⟨hmem, hall⟩ := (maxScore_spec _).2 ps hm
  obtain ⟨hbm, hball⟩ := (bestPlat_spec _).2 s hb
  exact ⟨(mem_pyScores ..).mp hmem, fun p hp a ha sc hsc => hall sc ((mem_pyScores ..).mpr ⟨p, hp, a, ha, hsc⟩),
    (mem_platScores ..).mp hbm, fun t ht s' hs' => hball s' ((mem_platScores ..).mpr ⟨t, ht, hs'⟩)⟩

/-- `None` exactly when nothing is loadable, or (no PlatformError and) no platform tag is accepted -/
theorem compatibility_none (e : EnvSpec) (py abi plat : List String) :
    compatibility e py abi plat = .none ↔
      (∀ p ∈ py, ∀ a ∈ abi, evaluatePython e p a = none) ∨
      ((∀ t ∈ plat, evaluatePlatform e t ≠ none) ∧ ∀ t ∈ plat, evaluatePlatform e t = some none) := by
  rw [compatibility_eq_none]
  simp only [pyScores, platScores, platError, List.filterMap_eq_nil_iff, List.forall_mem_flatMap, List.forall_mem_map,
    List.forall_mem_filterMap, List.any_map, List.any_eq_false, id, Function.comp, Option.isNone_iff_eq_none]
  refine or_congr_right (and_congr_right fun hne => forall₂_congr fun t ht => ?_)
  match hv : evaluatePlatform e t with
  | none => exact absurd hv (hne t ht)
  | some b => simp

/-- the verdict depends on the SETS of tags only: listing a wheel's tags in another order (or
    repeating one) changes nothing -/
theorem compatibility_perm (e : EnvSpec) (py abi plat py' abi' plat' : List String)
    (hpy : ∀ x, x ∈ py ↔ x ∈ py') (habi : ∀ x, x ∈ abi ↔ x ∈ abi') (hplat : ∀ x, x ∈ plat ↔ x ∈ plat') :
    compatibility e py abi plat = compatibility e py' abi' plat' := by
  have hmax : maxScore (pyScores e py abi) = maxScore (pyScores e py' abi') := by
    rw [maxScore_eq, maxScore_eq]
    exact max?_congr fun s => by simp only [mem_pyScores, hpy, habi]
  have hbest : bestPlat (platScores e plat) = bestPlat (platScores e plat') := by
    rw [bestPlat_eq, bestPlat_eq]
    exact max?_congr fun s => by simp only [mem_platScores, hplat]
  have herr : platError e plat = platError e plat' := by
    rw [Bool.eq_iff_iff]
    simp only [platError, List.any_map, List.any_eq_true, hplat]
  rw [compatibility_eq, compatibility_eq, hmax, hbest, herr]

/-! non-vacuity: the folds on concrete score lists (best, not first) -/
example : bestPlat [4, 2, 9, 3] = some 9 := by decide
example : maxScore [(3, 9, 0), (3, 10, 2), (3, 10, 1), (2, 20, 2)] = some (3, 10, 2) := by decide
example : maxScore [] = none ∧ bestPlat [] = none := by decide

end C08
end DepLogic
