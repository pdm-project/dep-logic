import DepLogic.Proofs.MarkerSingles
import DepLogic.Properties.C04
import DepLogic.Proofs.LexLemmas
/-
  C11 — the marker <-> specifier bridge preserves meaning for Python-version atoms.

  `coherent_plain`: for a (variable-on-the-left) comparison / `~=` / wildcard atom on a
  version-like variable, the specifier view `_get_specifier` builds admits the environment's
  (final) version exactly when `_evaluate` (packaging's `Specifier(op+value).contains`) is true.
  The proof goes through C04's leaf theorem and C01 (`RangeSpecifier() & s` admits what `s` admits).

  Hypothesis `LexOne`: the two readers of the text `op value` — `parse_version_specifier`
  (split on `||` and `,`, strip, then packaging) and `Specifier(...)` on the stripped value —
  see the same single clause `c` (lexing as modelled in Model/SpecParse.lean).
  `lexOne_of_clean` proves it for operands without `,`, `|`, blank; for a concrete atom it is
  checked by evaluation.

  This discharges, for such atoms, the `Coherent` conjunct of `GoodAtom`; literal-on-the-left
  comparison atoms follow below (`coherent_reversed`) and in Properties/C11Reversed.lean.  The
  other direction — `FromSpecOk` and `PyMergeOk`, parameters of C02's theorems — is proved in
  Proofs/FromSpec.lean and Proofs/LexNorm.lean (`C02.bridge`).  `in`/`not in` lists are outside
  these theorems (streams `specifier`, `from_specifier`).
-/
namespace DepLogic
namespace C11
open M LinPre

structure LexOne (a : Atom) (c : Clause Ver) : Prop where
  set : SpecParse.parseAltsText (a.op.str ++ a.value) = some [.clauses [c]]
  one : SpecParse.parseClauseL (a.op.str ++ trimS a.value).toList = some c

theorem trimS_of_no_blank (t : String) (h : ' ' ∉ t.toList) : trimS t = t := by
  simp only [trimS, Lex.trimL_none _ h, String.ofList_toList]

/-- only `not in` is written with a blank -/
theorem opStr_clean (op : MOp) (h : op ≠ .notIn) : Clean op.str.toList := by
  cases op <;> first | exact absurd rfl h | simp [Clean, MOp.str]

theorem lexOne_of_clean (a : Atom) (c : Clause Ver) (hop : a.op ≠ .in_ ∧ a.op ≠ .notIn) (hv : Clean a.value.toList)
    (hp : SpecParse.parseClauseL (a.op.str.toList ++ a.value.toList) = some c) : LexOne a c := by
  have hcl : Clean (a.op.str ++ a.value).toList := String.toList_append ▸ (opStr_clean a.op hop.2).append hv
  -- neither the empty text nor `<empty>` is a clause
  have hne : ∀ l, SpecParse.parseClauseL l = none → (a.op.str ++ a.value).toList ≠ l := by
    intro l hl h; rw [← String.toList_append, h, hl] at hp; cases hp
  constructor
  · rw [Lex.parseAltsText_clean _ hcl (hne [] rfl) (hne _ (by decide)), String.toList_append, hp]; rfl
  · rw [trimS_of_no_blank _ hv.2.2, String.toList_append]; exact hp

theorem ofCOp_cmp (cop : COp) : MOp.ofCOp cop ≠ .in_ ∧ MOp.ofCOp cop ≠ .notIn := by
  cases cop <;> simp [MOp.ofCOp]

theorem ofCOp_bne_compat (cop : COp) (h : cop ≠ .compat) : (MOp.ofCOp cop != MOp.compat) = true := by
  cases cop <;> first | rfl | exact absurd rfl h

/-- the match on `[0]` is `specContains`'s test that the clause is valid (`~=N` is not) -/
theorem specContains_eq (op : MOp) (h : op ≠ .in_ ∧ op ≠ .notIn) (rhs lhs : String) (c : Clause Ver)
    (hc : SpecParse.parseClauseL (op.str ++ trimS rhs).toList = some c) (v : Ver)
    (hv : SpecParse.parseVer (trimS lhs) = some v) (hf : v.isFinal = true) :
    specContains op rhs lhs =
      (match Pep440.matchesFinal c { release := [0] } with
       | none => none
       | some _ => some (Pep440.matchesFinal c v)) := by
  cases op <;> simp_all [specContains] <;> (cases Pep440.matchesFinal c { release := [0] } <;> rfl)

theorem spec_of_lex (a : Atom) (c : Clause Ver) (hw : a.WF) (hn : versionLikeNames.contains a.name = true)
    (hop : a.op ≠ .in_ ∧ a.op ≠ .notIn) (hl : LexOne a c) :
    ∃ s0, fromClause c = some s0 ∧ a.spec = .ver ((Spec.range {}).and s0) := by
  rw [Atom.WF, M.getSpecifier_cmp _ _ _ _ hn hop, Option.map_eq_some_iff] at hw
  obtain ⟨s, hs, hspec⟩ := hw
  obtain ⟨alts, halts, hs⟩ := (M.parseSpecOpt_some _ s).1 hs
  rw [hl.set] at halts
  cases halts
  rw [show parseAlts [.clauses [c]] = fromSpecifierSet [c] from rfl, fromSpecifierSet_one, Option.map_eq_some_iff] at hs
  obtain ⟨s0, hfc, rfl⟩ := hs
  exact ⟨s0, hfc, hspec.symm⟩

/-- which branches of `_evaluate` a version-like variable takes -/
theorem versionLike_eval (name : String) (hn : versionLikeNames.contains name = true) :
    versionEvalNames.contains name = true ∧ (name == "extra") = false ∧
      (name == "extras" || name == "dependency_groups") = false := by
  simp only [versionLikeNames, List.contains_cons, List.contains_nil, Bool.or_false, Bool.or_eq_true, beq_iff_eq] at hn
  rcases hn with rfl | rfl | rfl <;> decide

theorem envVer_some {env : Env} {name : String} {v : Ver} (h : envVer env name = some v) :
    ∃ t, env name = some (.str t) ∧ SpecParse.parseVer (trimS t) = some v := by
  unfold envVer at h
  cases hen : env name with
  | none => rw [hen] at h; cases h
  | some ev =>
    rw [hen] at h
    cases ev with
    | set _ => cases h
    | str t => exact ⟨t, rfl, h⟩

theorem holds_view (env : Env) (name : String) (c : Clause Ver) (s0 : Spec Ver) (hfc : fromClause c = some s0)
    (v : Ver) (hv : envVer env name = some v) (hf : v.isFinal = true) :
    some (holds env name (.ver ((Spec.range {}).and s0))) = Pep440.matchesFinal c v := by
  rw [C04.matches_eq c v (.inl hf) s0 hfc, holds_ver, hv]
  exact congrArg some (decide_eq_decide.2 (Spec.any_and_mem s0 v))

theorem coherent_plain (env : Env) (a : Atom) (c : Clause Ver) (hw : a.WF)
    (hn : versionLikeNames.contains a.name = true) (hop : a.op ≠ .in_ ∧ a.op ≠ .notIn)
    (hr : a.reversed = false) (hl : LexOne a c)
    (t : String) (v : Ver) (ht : env a.name = some (.str t))
    (hv : SpecParse.parseVer (trimS t) = some v) (hf : v.isFinal = true) :
    a.Coherent env := by
  obtain ⟨s0, hfc, hspec⟩ := spec_of_lex a c hw hn hop hl
  obtain ⟨hvn, hnx, hns⟩ := versionLike_eval a.name hn
  -- the clause parsed, so it has a PEP 440 meaning on every candidate
  have hm0 := C04.matches_eq c { release := [0] } (.inl rfl) s0 hfc
  unfold Atom.Coherent
  simp only [sem, Atom.eval, hnx, Bool.false_eq_true, if_false, ht, hns, hr, hvn, if_true]
  rw [specContains_eq a.op hop a.value t c hl.one v hv hf, hm0, hspec,
    ← holds_view env a.name c s0 hfc v (by rw [envVer, ht]; exact hv) hf]
  rfl

theorem coherent_clean (env : Env) (a : Atom) (c : Clause Ver) (hw : a.WF)
    (hn : versionLikeNames.contains a.name = true) (hop : a.op ≠ .in_ ∧ a.op ≠ .notIn)
    (hr : a.reversed = false) (hcl : Clean a.value.toList)
    (hp : SpecParse.parseClauseL (a.op.str.toList ++ a.value.toList) = some c)
    (t : String) (v : Ver) (ht : env a.name = some (.str t))
    (hv : SpecParse.parseVer (trimS t) = some v) (hf : v.isFinal = true) : a.Coherent env :=
  coherent_plain env a c hw hn hop hr (lexOne_of_clean a c hop hcl hp) t v ht hv hf

/-- `"lit" op name` reads as `name (cReflect op) lit`: the comparison mirrored -/
def cReflect : COp → COp
  | .lt => .gt | .le => .ge | .gt => .lt | .ge => .le | o => o

/-- lexing facts for a reversed atom in an environment whose value for the variable is `t`:
    `_evaluate` reads `Specifier(written_op + t)` and parses the literal as the candidate -/
structure LexRev (a : Atom) (t : String) (cop : COp) (w v : Ver) : Prop where
  view : LexOne a ⟨cop, w, false⟩
  op : a.op = MOp.ofCOp cop
  notCompat : cop ≠ .compat
  envClause : SpecParse.parseClauseL (a.op.reflect.str ++ trimS t).toList = some ⟨cReflect cop, v, false⟩
  literal : SpecParse.parseVer (trimS a.value) = some w

/-- `"3.8" < python_version` and friends: evaluating with the environment's value as the
    specifier and the literal as the candidate agrees with the atom's specifier view
    (final versions on both sides; ordering and equality operators) -/
theorem coherent_reversed (env : Env) (a : Atom) (cop : COp) (w v : Ver) (hw : a.WF)
    (hn : versionLikeNames.contains a.name = true) (hr : a.reversed = true)
    (t : String) (ht : env a.name = some (.str t)) (hl : LexRev a t cop w v)
    (hv : SpecParse.parseVer (trimS t) = some v) (hf : v.isFinal = true) (hwf : w.isFinal = true) :
    a.Coherent env := by
  obtain ⟨s0, hfc, hspec⟩ := spec_of_lex a _ hw hn (hl.op ▸ ofCOp_cmp cop) hl.view
  obtain ⟨hvn, hnx, hns⟩ := versionLike_eval a.name hn
  have hopr : a.op.reflect ≠ .in_ ∧ a.op.reflect ≠ .notIn := by
    rw [hl.op]; cases cop <;> simp [MOp.ofCOp, MOp.reflect]
  have hnc := hl.notCompat
  -- the mirrored comparison with the two sides exchanged is the comparison
  have hdual : Pep440.matchesFinal ⟨cReflect cop, v, false⟩ w = Pep440.matchesFinal ⟨cop, w, false⟩ v := by
    cases cop
    case compat => exact absurd rfl hnc
    case eq =>
      simp only [Pep440.matchesFinal, cReflect, Option.some.injEq, decide_eq_decide]
      exact And.comm
    case ne =>
      simp only [Pep440.matchesFinal, cReflect, Option.some.injEq, Bool.not_eq_eq_eq_not, Bool.not_not, decide_eq_decide]
      exact And.comm
    all_goals rfl
  obtain ⟨b0, hb0⟩ : ∃ b0, Pep440.matchesFinal ⟨cReflect cop, v, false⟩ { release := [0] } = some b0 := by
    cases cop <;> first | exact absurd rfl hnc | exact ⟨_, rfl⟩
  unfold Atom.Coherent
  simp only [sem, Atom.eval, hnx, Bool.false_eq_true, if_false, ht, hns, hr, hvn, if_true]
  rw [specContains_eq a.op.reflect hopr t a.value _ hl.envClause w hl.literal hwf, hb0, hdual, hspec,
    ← holds_view env a.name _ s0 hfc v (by rw [envVer, ht]; exact hv) hf]
  rfl

/-- non-vacuity: `python_full_version ~= "3.8.1"` is well-formed and lexes to one clause -/
example : let a : Atom := ⟨"python_full_version", .compat, "3.8.1", false,
      .ver (.range { min := some { release := [3, 8, 1] }, max := some { release := [3, 9, 0] }, incMin := true,
                     text := some ⟨.compat, { release := [3, 8, 1] }, false⟩ })⟩
    LexOne a ⟨.compat, { release := [3, 8, 1] }, false⟩ := by
  constructor <;> decide +kernel

end C11
end DepLogic
