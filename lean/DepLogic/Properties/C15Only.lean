import DepLogic.Properties.C15Atomic

/-!
# C15, `only()` on flat operands

`m.only(names)` maps every single marker of a compound to itself or to `AnyMarker()` and re-normalises
through `MultiMarker.of` / `MarkerUnion.of`. The lists handed to `of` therefore hold single markers AND
universal markers (`AllSoA`):

* conjunction: a universal child is neutral, the loop skips it (`multiOf_son`, from fuel 3 on: one pass must
  have run);
* disjunction: a universal child is absorbing, the loop state may hold it and the final `any(m.is_any())` test
  answers `AnyMarker()` (`unionOfList_sox`, every fuel).

Hence `only_flat_multi` (every fuel ≥ 4), `only_flat_union` (every fuel ≥ 2) and, through the public entry,
`only_flat`.
-/

namespace DepLogic
namespace C15
open M

def SoA (x : M) : Prop := x.isSingle = true ∨ x = .any
def AllSoA (l : List M) : Prop := ∀ x ∈ l, SoA x

theorem allSoA_of_allSingle (l : List M) (h : AllSingle l) : AllSoA l := fun x hx => Or.inl (h x hx)

/-- `son`: Single Or Neutral -/
theorem multiOf_son (fuel : Nat) (ms : List M) (hs : AllSoA ms) : FlatNF true (multiOf (fuel + 3) ms) :=
  ofB_atomic true fuel ms fun x hx => Or.inr (hs x hx).symm

/-- `sox`: Single Or the absorbing constant -/
theorem unionOfList_sox (fuel : Nat) (ms : List M) (hs : AllSoA ms) : FlatNF false (unionOfList (fuel + 1) ms) :=
  ofB_kept false fuel ms fun x hx => (hs x hx).elim (Kept.of_single false) fun e => e ▸ ⟨Or.inr (Or.inl rfl), rfl⟩

theorem only_flat_multi (f : Nat) (l : List M) (names : List String) (hl : AllSingle l) :
    FlatNF true (only (f + 4) (.multi l) names) :=
  only_atomic_multi f l names hl.atomic

theorem only_flat_union (f : Nat) (l : List M) (names : List String) (hl : AllSingle l) :
    FlatNF false (only (f + 2) (.union l) names) := by
  rw [show only (f + 2) (.union l) names = _ from only_junction false (f + 1) l names]
  exact unionOfList_sox f _ (List.forall_mem_map.2 fun c hc => by
    rcases only_single (f + 1) c names (hl c hc) with h | h <;> rw [h]
    · exact Or.inl (hl c hc)
    · exact Or.inr rfl)

theorem only_flat (f : Nat) (m : M) (names : List String) (hm : FlatConj m ∨ FlatDisj m) :
    FlatNF true (only (f + 4) m names) ∨ FlatNF false (only (f + 4) m names) := by
  have hsingle : m.isSingle = true → FlatNF true (only (f + 4) m names) := fun hs =>
    atomic_flatNF true _ (only_atomic _ m names (.of_single hs))
  rcases hm with (hs | ⟨l, rfl, hl⟩) | (hs | ⟨l, rfl, hl⟩)
  · exact Or.inl (hsingle hs)
  · exact Or.inl (only_flat_multi f l names hl)
  · exact Or.inl (hsingle hs)
  · exact Or.inr (only_flat_union (f + 2) l names hl)

/-! non-vacuity -/

example : AllSingle [atomA, atomB, atomC] := by intro x hx; simp at hx; rcases hx with rfl | rfl | rfl <;> rfl
example : beq (only 8 (.multi [atomA, atomB, atomC]) ["os_name", "platform_machine"]) (.multi [atomA, atomC]) = true := by decide +kernel
example : beq (only 8 (.union [atomA, atomB, atomC]) ["os_name", "platform_machine"]) .any = true := by decide +kernel
example : beq (only 8 (.union [atomA, atomC]) ["os_name", "platform_machine"]) (.union [atomA, atomC]) = true := by decide +kernel
example : beq (only 8 (.multi [atomA, atomB]) ["sys_platform"]) atomB = true := by decide +kernel

end C15
end DepLogic
