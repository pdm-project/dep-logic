import DepLogic.Properties.C07Atom
/-
  C07, marker text with parentheses — units (an atom, or a parenthesised sequence) joined by ` and ` / ` or `, nested
  to any depth: the model of packaging's parser reads the characters back as the corresponding nested token list
  (`nested_text`).  `seq_text`, the paren-free case, is read off it.
-/
namespace DepLogic
namespace C07
open Quote MText M

mutual
/-- a unit of marker text: an atom, or `( first op u op u ... )` -/
inductive U where
  | atom (a : Atom)
  | group (first : U) (tl : TL)
inductive TL where
  | nil
  | cons (isAnd : Bool) (u : U) (tl : TL)
end

mutual
def U.text : U → List Char
  | .atom a => atomStrL a
  | .group f tl => '(' :: (f.text ++ (tl.text ++ [')']))
def TL.text : TL → List Char
  | .nil => []
  | .cons b u tl => opText b ++ (u.text ++ tl.text)
end

mutual
def U.item : U → PItem
  | .atom a => atomItem a
  | .group f tl => .group (f.item :: tl.items)
def TL.items : TL → List PItem
  | .nil => []
  | .cons b u tl => opItem b :: u.item :: tl.items
end

mutual
def U.Ok : U → Prop
  | .atom a => a.name.toList ∈ canonNames
  | .group f tl => f.Ok ∧ tl.Ok
def TL.Ok : TL → Prop
  | .nil => True
  | .cons _ u tl => u.Ok ∧ tl.Ok
end

/-- what may follow a sequence -/
def Closes (rest : List Char) : Prop := rest = [] ∨ ∃ r, rest = ')' :: r

theorem closes_noBool (rest : List Char) (h : Closes rest) : readBoolOp (skipWs rest) = none ∧ skipWs rest = rest := by
  rcases h with rfl | ⟨r, rfl⟩
  · simp [skipWs, readBoolOp]
  · rw [skipWs_cons ')' r (by decide)]; simp [readBoolOp]

theorem tl_head (tl : TL) (rest : List Char) (h : Closes rest) : ∀ c ∈ (tl.text ++ rest).head?, isVarChar c = false := by
  cases tl with
  | nil =>
    rcases h with rfl | ⟨r, rfl⟩
    · simp [TL.text]
    · intro c hc; simp [TL.text] at hc; subst hc; decide
  | cons b u t =>
    intro c hc
    have : (TL.text (.cons b u t) ++ rest).head? = some ' ' := by
      cases b <;> simp [TL.text, opText]
    rw [this] at hc
    simp only [Option.mem_def, Option.some.injEq] at hc
    subst hc; decide

theorem U.noBlank : ∀ (u : U), u.Ok → NoBlank u.text
  | .atom a, hok => by
    obtain ⟨c, t, h1, h2, _⟩ := atomStrL_head a hok
    exact ⟨c, t, h1, h2⟩
  | .group f tl, _ => ⟨'(', _, rfl, by decide⟩

/- The induction: what follows a unit is a blank (of a joiner), a `)` or the end of the text (`tl_head`, `Closes`), so a
   name that ends the unit is never continued and `atom_text` applies.  Fuel: every call of the parser consumes a
   character, so the length of the text still to be read bounds the calls. -/
mutual
theorem U.read : ∀ (u : U), u.Ok → ∀ (f : Nat) (s rest : List Char), u.text.length ≤ f →
    (∀ c ∈ rest.head?, isVarChar c = false) → skipWs s = u.text ++ rest →
    readMAtom (f + 1) s = some (u.item, skipWs rest)
  | .atom a, hok, f, s, rest, _, hr, hs => readMAtom_atom f a s rest hok hr hs
  | .group first tl, hok, f, s, rest, hf, _, hs => by
    simp only [U.text, List.length_cons, List.length_append, List.length_nil] at hf
    obtain ⟨f2, rfl⟩ : ∃ f2, f = f2 + 2 := ⟨f - 2, by omega⟩
    have hcl : Closes (')' :: rest) := Or.inr ⟨rest, rfl⟩
    have h1 := U.read first hok.1 f2 _ (tl.text ++ ')' :: rest) (by omega) (tl_head tl _ hcl) ((U.noBlank first hok.1).skip _).1
    have h2 := TL.read tl hok.2 (f2 + 1) [first.item] (')' :: rest) (by omega) hcl
    rw [U.text, List.cons_append, List.append_assoc, List.append_assoc, List.singleton_append] at hs
    rw [readMAtom, hs]
    simp only
    rw [readMarker, ((U.noBlank first hok.1).skip _).1, h1]
    simp only
    rw [h2]
    simp only
    rw [skipWs_cons ')' rest (by decide)]
    simp [U.item]
theorem TL.read : ∀ (tl : TL), tl.Ok → ∀ (f : Nat) (acc : List PItem) (rest : List Char), tl.text.length < f → Closes rest →
    readMore f acc (skipWs (tl.text ++ rest)) = some (acc.reverse ++ tl.items, rest)
  | .nil, _, f, acc, rest, hf, hcl => by
    obtain ⟨f1, rfl⟩ : ∃ f1, f = f1 + 1 := ⟨f - 1, by omega⟩
    obtain ⟨hb, hs⟩ := closes_noBool rest hcl
    simp only [TL.text, List.nil_append]
    rw [readMore, hb, hs]
    simp [TL.items]
  | .cons b u tl, hok, f, acc, rest, hf, hcl => by
    have : 1 ≤ (opText b).length := by cases b <;> simp [opText]
    simp only [TL.text, List.length_append] at hf
    obtain ⟨f2, rfl⟩ : ∃ f2, f = f2 + 2 := ⟨f - 2, by omega⟩
    have h1 := U.read u hok.1 f2 (' ' :: (u.text ++ (tl.text ++ rest))) (tl.text ++ rest) (by omega) (tl_head tl _ hcl)
      ((U.noBlank u hok.1).skip _).2
    have h2 := TL.read tl hok.2 (f2 + 1) (u.item :: opItem b :: acc) rest (by omega) hcl
    rw [TL.text, List.append_assoc, List.append_assoc, readMore, readBoolOp_opText]
    simp only
    rw [h1]
    simp only
    rw [h2]
    simp [TL.items]
end

theorem nested_text (first : U) (tl : TL) (h1 : first.Ok) (h2 : tl.Ok) :
    readFullMarker (first.text ++ tl.text) = some (first.item :: tl.items) := by
  have hcl : Closes [] := Or.inl rfl
  have e1 := U.read first h1 (2 * (first.text ++ tl.text).length) _ (tl.text ++ []) (by simp only [List.length_append]; omega)
    (tl_head tl [] hcl) ((U.noBlank first h1).skip _).1
  have e2 := TL.read tl h2 (2 * (first.text ++ tl.text).length + 1) [first.item] []
    (by simp only [List.length_append]; omega) hcl
  rw [List.append_nil] at e1 e2
  -- `readFullMarker` gives twice the length as fuel; the length would do
  rw [readFullMarker, readMarker, e1]
  simp only
  rw [e2]
  rfl

def TL.ofAtoms : List (Bool × Atom) → TL
  | [] => .nil
  | p :: ps => .cons p.1 (.atom p.2) (TL.ofAtoms ps)

theorem TL.ofAtoms_spec : ∀ (tl : List (Bool × Atom)),
    (TL.ofAtoms tl).text = tailText tl ∧ (TL.ofAtoms tl).items = tailItems tl ∧
    ((∀ p ∈ tl, p.2.name.toList ∈ canonNames) → (TL.ofAtoms tl).Ok)
  | [] => ⟨rfl, rfl, fun _ => trivial⟩
  | p :: ps => by
    obtain ⟨h1, h2, h3⟩ := TL.ofAtoms_spec ps
    refine ⟨?_, ?_, fun h => (List.forall_mem_cons.1 h).imp_right h3⟩
    · simp [TL.ofAtoms, TL.text, U.text, h1, tailText]
    · simp [TL.ofAtoms, TL.items, U.item, h2, tailItems]

theorem seq_text (a0 : Atom) (tl : List (Bool × Atom)) (h0 : a0.name.toList ∈ canonNames)
    (hn : ∀ p ∈ tl, p.2.name.toList ∈ canonNames) :
    readFullMarker (seqText a0 tl) = some (seqItems a0 tl) := by
  obtain ⟨h1, h2, h3⟩ := TL.ofAtoms_spec tl
  have := nested_text (.atom a0) (.ofAtoms tl) h0 (h3 hn)
  rwa [h1, h2] at this

end C07
end DepLogic
