import DepLogic.Proofs.MarkerSingles
import DepLogic.Proofs.FromSpec
import DepLogic.Proofs.LexNorm
/-
  C02 — marker `&` and `|` are sound.

  `and_sound` / `or_sound`: for EVERY fuel (so whether or not the simplification loops ran to completion), every
  environment that binds the variables, and all markers whose atoms are of the well-defined classes, the result
  of `&` (`|`) is satisfied exactly when both (either) operand(s) are.

  The theorems take `FromSpecOk` and `PyMergeOk` as parameters; both are theorems (Proofs/FromSpec.lean), down to
  the character-level facts they rest on (`lexPrint_full`, `lexNorm_final`).  So the `*_final` theorems state C02
  with no assumption other than an environment that binds its variables PEP 508-style (`EnvTotal`) and atoms of
  the well-defined classes (`Good`).  The restriction to specifier views over plain final releases (`C06.Nice`,
  inside `Good`) is forced in one respect: with post-release bounds the property is false of the code (known
  finding D4a).
-/
namespace DepLogic
namespace C02
open M


theorem engine (env : Env) (he : EnvTotal env) (hF : FromSpecOk env) (hP : PyMergeOk env) (fuel : Nat) :
    SoundB env (Good env) fuel :=
  soundB_all (singleSound env he hF hP) fuel

theorem and_sound (env : Env) (he : EnvTotal env) (hF : FromSpecOk env) (hP : PyMergeOk env) (fuel : Nat) (a b : M) (ha : GAll (Good env) a) (hb : GAll (Good env) b) :
    GAll (Good env) (M.and fuel a b) ∧ sem env (M.and fuel a b) = (sem env a && sem env b) :=
  (engine env he hF hP fuel).op true ⟨ha, rfl⟩ ⟨hb, rfl⟩

theorem or_sound (env : Env) (he : EnvTotal env) (hF : FromSpecOk env) (hP : PyMergeOk env) (fuel : Nat) (a b : M) (ha : GAll (Good env) a) (hb : GAll (Good env) b) :
    GAll (Good env) (M.or fuel a b) ∧ sem env (M.or fuel a b) = (sem env a || sem env b) :=
  (engine env he hF hP fuel).op false ⟨ha, rfl⟩ ⟨hb, rfl⟩

/-- an `a & b` that reports `is_empty()` is satisfied by no environment -/
theorem isEmpty_sound (env : Env) (he : EnvTotal env) (hF : FromSpecOk env) (hP : PyMergeOk env) (fuel : Nat) (a b : M) (ha : GAll (Good env) a) (hb : GAll (Good env) b)
    (h : (M.and fuel a b).isEmpty = true) : (sem env a && sem env b) = false :=
  (and_sound env he hF hP fuel a b ha hb).2.symm.trans (sem_of_isAbs env true h)

/-- an `a | b` that reports `is_any()` is satisfied by every environment -/
theorem isAny_sound (env : Env) (he : EnvTotal env) (hF : FromSpecOk env) (hP : PyMergeOk env) (fuel : Nat) (a b : M) (ha : GAll (Good env) a) (hb : GAll (Good env) b)
    (h : (M.or fuel a b).isAny = true) : (sem env a || sem env b) = true :=
  (or_sound env he hF hP fuel a b ha hb).2.symm.trans (sem_of_isAbs env false h)

/-- CNF/DNF rewriting and the `of` normalisations never change which environments are selected -/
theorem rewriting_sound (env : Env) (he : EnvTotal env) (hF : FromSpecOk env) (hP : PyMergeOk env) (fuel : Nat) (m : M) (hm : GAll (Good env) m) :
    sem env (cnf fuel m) = sem env m ∧ sem env (dnf fuel m) = sem env m ∧
    (∀ ms, GAllL (Good env) ms → sem env (multiOf fuel ms) = ms.all (sem env)) ∧
    (∀ ms, GAllL (Good env) ms → sem env (unionOfList fuel ms) = ms.any (sem env)) :=
  let S := engine env he hF hP fuel
  ⟨(S.nf true ⟨hm, rfl⟩).2, (S.nf false ⟨hm, rfl⟩).2, fun _ h => (S.of true ⟨h, rfl⟩).2, fun _ h => (S.of false ⟨h, rfl⟩).2⟩

/-- `from_specifier` and the python_version / python_full_version merge are sound: no assumption
    beyond the environment binding its variables -/
theorem bridge (env : Env) (he : EnvTotal env) : FromSpecOk env ∧ PyMergeOk env :=
  let hF := fromSpecOk_of_lex env he lexNorm_final
  ⟨hF, pyMergeOk_of_fromSpec env he hF⟩

/-- **C02, `&`** -/
theorem and_sound_final (env : Env) (he : EnvTotal env) (fuel : Nat) (a b : M)
    (ha : GAll (Good env) a) (hb : GAll (Good env) b) :
    GAll (Good env) (M.and fuel a b) ∧ sem env (M.and fuel a b) = (sem env a && sem env b) :=
  and_sound env he (bridge env he).1 (bridge env he).2 fuel a b ha hb

/-- **C02, `|`** -/
theorem or_sound_final (env : Env) (he : EnvTotal env) (fuel : Nat) (a b : M)
    (ha : GAll (Good env) a) (hb : GAll (Good env) b) :
    GAll (Good env) (M.or fuel a b) ∧ sem env (M.or fuel a b) = (sem env a || sem env b) :=
  or_sound env he (bridge env he).1 (bridge env he).2 fuel a b ha hb

/-! ### the hypotheses are satisfiable (non-vacuity) -/

/-- CPython 3.8.5 on Linux 5.10, no extras -/
def env0 : Env := fun n =>
  if n = "python_version" then some (.str "3.8")
  else if n = "python_full_version" then some (.str "3.8.5")
  else if n = "platform_release" then some (.str "5.10")
  else if n = "extra" ∨ n = "extras" ∨ n = "dependency_groups" then some (.set [])
  else some (.str "x")

theorem env0_ver : envVer env0 "python_version" = some (fin [3, 8]) ∧
    envVer env0 "python_full_version" = some (fin [3, 8, 5]) ∧ envVer env0 "platform_release" = some (fin [5, 10]) := by
  decide +kernel

theorem env0_total : EnvTotal env0 where
  str := by
    intro n h1 h2
    have h4 : ¬ (n = "extra" ∨ n = "extras" ∨ n = "dependency_groups") := by
      simpa [setNames, h1] using h2
    unfold env0
    rw [if_neg h4]
    let P : Option EnvVal → Prop := fun v => ∃ t, v = some (.str t)
    have x : ∀ t, P (some (.str t)) := fun t => ⟨t, rfl⟩
    exact ite_both (P := P) (x _) (ite_both (P := P) (x _) (ite_both (P := P) (x _) (x _)))
  ver := by
    intro n hn
    simp only [versionLikeNames, List.contains_cons, List.contains_nil, Bool.or_false, Bool.or_eq_true, beq_iff_eq] at hn
    rcases hn with rfl | rfl | rfl
    · rw [env0_ver.1]; rfl
    · rw [env0_ver.2.1]; rfl
    · rw [env0_ver.2.2]; rfl
  verFinal := by
    intro n v hv
    by_cases h1 : n = "python_version"
    · rw [h1, env0_ver.1] at hv; cases hv; rfl
    by_cases h2 : n = "python_full_version"
    · rw [h2, env0_ver.2.1] at hv; cases hv; rfl
    by_cases h3 : n = "platform_release"
    · rw [h3, env0_ver.2.2] at hv; cases hv; rfl
    -- every other variable is bound to a set or to "x", which is no version
    exfalso
    have hx : SpecParse.parseVer (trimS "x") = none := by decide +kernel
    unfold envVer env0 at hv
    rw [if_neg h1, if_neg h2, if_neg h3] at hv
    by_cases h4 : n = "extra" ∨ n = "extras" ∨ n = "dependency_groups"
    · simp [h4] at hv
    · simp [h4, hx] at hv
  extra := by decide +kernel
  sets := by
    intro n hn
    simp only [setNames, List.contains_cons, List.contains_nil, Bool.or_false, Bool.or_eq_true, beq_iff_eq] at hn
    rcases hn with rfl | rfl <;> exact ⟨[], by decide +kernel⟩
  py := by
    intro f hf
    rw [env0_ver.2.1] at hf; cases hf
    exact ⟨3, 8, [5], rfl, env0_ver.1⟩

theorem versionLike_pv : versionLikeNames.contains "python_version" = true ∧
    versionLikeNames.contains "python_full_version" = true := by decide +kernel

/-- `python_full_version >= "3.8.1"` as the parser builds it -/
def atomFull : Atom :=
  ⟨"python_full_version", .ge, "3.8.1", false,
   .ver (.range { min := some { release := [3, 8, 1] }, incMin := true, text := some ⟨.ge, { release := [3, 8, 1] }, false⟩ })⟩

theorem atomFull_good : GoodAtom env0 atomFull := by
  refine .of_versionLike (by unfold Atom.WF; decide +kernel) versionLike_pv.2 ?_
  refine Or.inr ⟨by unfold Atom.Coherent; decide +kernel, ?_, fun h => absurd h (by decide +kernel)⟩
  exact nice_fromClause ⟨.ge, { release := [3, 8, 1] }, false⟩ _ (by simp [fromClause]) ⟨rfl, rfl, by simp⟩

/-- `python_version > "3.8"` as the parser builds it: the strict comparison that has to be
    re-read as `python_full_version >= "3.9"` -/
def atomPvGt : Atom :=
  ⟨"python_version", .gt, "3.8", false,
   .ver (.range { min := some { release := [3, 8] }, text := some ⟨.gt, { release := [3, 8] }, false⟩ })⟩

def normGe39 : Spec Ver :=
  .range { min := some { release := [3, 9] }, incMin := true, text := some ⟨.ge, { release := [3, 9] }, false⟩ }

theorem atomPvGt_good : GoodAtom env0 atomPvGt := by
  refine .of_versionLike (by unfold Atom.WF; decide +kernel) versionLike_pv.1 ?_
  refine Or.inr ⟨by unfold Atom.Coherent; decide +kernel, ?_, ?_⟩
  · exact nice_fromClause ⟨.gt, { release := [3, 8] }, false⟩ _ (by simp [fromClause]) ⟨rfl, rfl, by simp⟩
  · intro _ ns hns
    have hnorm : normalizePythonVersion atomPvGt = some (.ver ((Spec.range {}).and normGe39)) := by decide +kernel
    rw [hnorm] at hns
    cases hns
    refine ⟨by decide +kernel, ?_, versionLike_pv.2⟩
    exact nice_view ⟨.ge, { release := [3, 9] }, false⟩ normGe39 (by simp [fromClause, normGe39]) ⟨rfl, rfl, by simp⟩

/-- `python_version >= "3.8.1"` as the parser builds it: three significant components.
    `_normalize_python_version_specifier` returns None for it (the `fix:` for D22: it was read as the
    python_full_version constraint `>=3.8.1`), so it is never merged with a python_full_version atom, and it is a
    Good atom like any other -/
def atomPv3 : Atom :=
  ⟨"python_version", .ge, "3.8.1", false,
   .ver (.range { min := some { release := [3, 8, 1] }, incMin := true, text := some ⟨.ge, { release := [3, 8, 1] }, false⟩ })⟩

theorem atomPv3_good : GoodAtom env0 atomPv3 := by
  refine .of_versionLike (by unfold Atom.WF; decide +kernel) versionLike_pv.1 ?_
  refine Or.inr ⟨by unfold Atom.Coherent; decide +kernel, ?_, ?_⟩
  · exact nice_fromClause ⟨.ge, { release := [3, 8, 1] }, false⟩ _ (by simp [fromClause]) ⟨rfl, rfl, by simp⟩
  · intro _ ns hns
    have hnorm : normalizePythonVersion atomPv3 = none := by decide +kernel
    rw [hnorm] at hns; cases hns

example : mergeSingle atomPv3 atomFull true = none := by decide +kernel

/-- `"3.8" ~= python_version` as the parser builds it (literal on the left, `~=` has no mirror image): its
    specifier view `~=3.8` is NOT what it evaluates to, so after the `fix:` it is never merged
    (`Atom.exactView = false`) and is a Good, opaque atom -/
def atomRevCompat : Atom :=
  ⟨"python_version", .compat, "3.8", true,
   .ver (.range { min := some { release := [3, 8] }, max := some { release := [4, 0] }, incMin := true,
                  text := some ⟨.compat, { release := [3, 8] }, false⟩ })⟩

theorem atomRevCompat_good : GoodAtom env0 atomRevCompat :=
  .of_versionLike (by unfold Atom.WF; decide +kernel) versionLike_pv.1 (Or.inl (by decide +kernel))

/-- the specifier view of that atom really is inexact: in an environment with python_version 3.6 the atom
    is true (`~=3.6` contains 3.8) while `~=3.8` does not admit 3.6 -/
example : ¬ atomRevCompat.Coherent (fun n => if n == "python_version" then some (.str "3.6") else env0 n) := by
  unfold Atom.Coherent; decide +kernel

example : mergeSingle atomRevCompat atomPvGt true = none := by decide +kernel

/-- `python_full_version >= "3.8,<3.9"`: the operand is not a version, so the atom is evaluated by the PEP 508
    string fallback, while its specifier view splices the operand into a specifier expression (`>=3.8,<3.9`).
    Merged through that view, `... and python_full_version >= "3.8.5"` became `python_full_version ~= "3.8.5"` (D35);
    after the `fix:` `Atom.exactView` is false for such operands: a Good, opaque atom. -/
def atomComma : Atom :=
  ⟨"python_full_version", .ge, "3.8,<3.9", false,
   .ver (.range { min := some { release := [3, 8] }, max := some { release := [3, 9] }, incMin := true })⟩

theorem atomComma_good : GoodAtom env0 atomComma :=
  .of_versionLike (by unfold Atom.WF; decide +kernel) versionLike_pv.2 (Or.inl (by decide +kernel))

example : mergeSingle atomComma ⟨"python_full_version", .ge, "3.8.5", false,
    .ver (.range { min := some { release := [3, 8, 5] }, incMin := true,
                   text := some ⟨.ge, { release := [3, 8, 5] }, false⟩ })⟩ true = none := by decide +kernel

/-- `python_version < "empty>"`: operator and operand spell the `<empty>` keyword, so the specifier view is the empty
    set, while the atom itself evaluates by the string fallback.  After the `fix:` for D40 it is never merged
    (`Atom.exactView = false`): a Good, opaque atom. -/
def atomKeyword : Atom := ⟨"python_version", .lt, "empty>", false, .ver .empty⟩

theorem atomKeyword_good : GoodAtom env0 atomKeyword :=
  .of_versionLike (by unfold Atom.WF; decide +kernel) versionLike_pv.1 (Or.inl (by decide +kernel))

example : mergeSingle atomKeyword ⟨"python_version", .ge, "99", false,
    .ver (.range { min := some { release := [99] }, incMin := true, text := some ⟨.ge, { release := [99] }, false⟩ })⟩ false = none := by
  decide +kernel

/-- `implementation_version == "3.8"`: `_evaluate` compares it as a version (MARKERS_REQUIRING_VERSION), its
    specifier view is a string comparison (it is not in `_VERSION_LIKE_MARKER_NAME`).  Merged through the string
    view, `== "3.8" or == "3.9"` became a group that is false on 3.8.0 (D24); after the `fix:` `Atom.exactView` is
    false for the variable and the atom is a Good, opaque atom. -/
def atomImpl : Atom := ⟨"implementation_version", .eq, "3.8", false, .gen ⟨.eq, "3.8"⟩⟩

theorem atomImpl_good : GoodAtom env0 atomImpl := by
  refine ⟨by unfold Atom.WF; decide +kernel, ?_⟩
  have h1 : atomImpl.name ≠ "extra" := by decide +kernel
  have h2 : setNames.contains atomImpl.name = false := by decide +kernel
  have h3 : versionLikeNames.contains atomImpl.name = false := by decide +kernel
  simp only [h1, if_false, h2, Bool.false_eq_true, h3]
  exact Or.inr (by decide +kernel)

/-- the string view really is inexact: on implementation_version 3.8.0 the atom is true, `== "3.8"` as strings is not -/
example : ¬ atomImpl.Coherent (fun n => if n == "implementation_version" then some (.str "3.8.0") else env0 n) := by
  unfold Atom.Coherent; decide +kernel

example : mergeSingle atomImpl ⟨"implementation_version", .eq, "3.9", false, .gen ⟨.eq, "3.9"⟩⟩ false = none := by decide +kernel

/-- what the guards added by the `fix:`es D21, D24, D26 amount to in the model: an atom whose specifier view is not exact
    is merged with nothing but itself — `&` / `|` with any other atom keeps both atoms side by side -/
theorem inexact_never_merged (a b : Atom) (isAnd : Bool) (h : a.exactView = false ∨ b.exactView = false)
    (hne : a.beq b = false) : mergeSingle a b isAnd = none := by
  unfold mergeSingle
  rw [if_neg (by simp [hne])]
  rcases h with h | h <;> simp [h]

example : SpecParse.parseAltsText ((MOp.ofCOp .ge).str ++ fsText "python_full_version" ⟨.ge, { release := [3, 8] }, false⟩)
    = some [.clauses [fsC "python_full_version" ⟨.ge, { release := [3, 8] }, false⟩]] := by decide +kernel

example : normalizePythonVersion ⟨"python_version", .gt, "3.8", false,
      .ver (.range { min := some { release := [3, 8] }, text := some ⟨.gt, { release := [3, 8] }, false⟩ })⟩
    = (fromClause (normClause2 .gt 3 8)).map fun sn => .ver ((Spec.range {}).and sn) := by decide +kernel

end C02
end DepLogic
