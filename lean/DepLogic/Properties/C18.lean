import DepLogic.Model.Tags
import DepLogic.Proofs.LexLemmas
/-
  C18 — wheel file names and platform names are parsed faithfully.
  Character level for wheel names and the platform alias table; the round trip of platform names is in
  Properties/C18Platform.lean.
-/
deriving instance DecidableEq for Except

namespace DepLogic
namespace C18

/-- `parse_wheel_tags` splits with the same `str.split` as the specifier parser -/
theorem splitC_eq (c : Char) (l : List Char) : splitC c l = SpecParse.splitOnChar c l := by
  induction l with
  | nil => rfl
  | cons x xs ih => simp only [splitC, SpecParse.splitOnChar, ih]; rfl

def joinDash : List (List Char) → List Char
  | [] => []
  | [x] => x
  | x :: rest => x ++ '-' :: joinDash rest

theorem joinDash_eq : ∀ parts : List (List Char), joinDash parts = ['-'].intercalate parts
  | [] => rfl
  | [x] => by simp [joinDash, List.intercalate]
  | x :: y :: rest => by rw [List.intercalate_cons_cons, ← joinDash_eq (y :: rest)]; simp [joinDash]

theorem splitC_joinDash (parts : List (List Char)) (hne : parts ≠ []) (h : ∀ p ∈ parts, '-' ∉ p) :
    splitC '-' (joinDash parts) = parts := by
  rw [splitC_eq, joinDash_eq, Lex.splitOnChar_intercalate '-' parts hne h]

theorem count_joinDash : ∀ (parts : List (List Char)), parts ≠ [] → (∀ p ∈ parts, '-' ∉ p) →
    (joinDash parts).count '-' = parts.length - 1 := by
  intro parts
  induction parts with
  | nil => intro h; exact absurd rfl h
  | cons x rest ih =>
    intro _ h
    obtain ⟨hx, hr⟩ := List.forall_mem_cons.1 h
    cases rest with
    | nil => simpa [joinDash] using List.count_eq_zero.2 hx
    | cons y ys =>
      simp only [joinDash, List.count_append, List.count_cons_self]
      rw [List.count_eq_zero.2 hx, ih nofun hr]
      simp

/-- with the extension in place `parse_wheel_tags` looks at the body only -/
theorem parseWheelTags_whl (body : List Char) :
    parseWheelTags (body ++ ".whl".toList) =
      if body.count '-' != 4 && body.count '-' != 5 then .error .badPartCount
      else
        match (splitC '-' body).reverse with
        | plat :: abi :: py :: _ =>
          .ok (splitC '.' (py.map Char.toLower), splitC '.' (abi.map Char.toLower), splitC '.' (plat.map Char.toLower))
        | _ => .error .badPartCount := by
  unfold parseWheelTags
  have hl : (body ++ ".whl".toList).length = body.length + 4 := by simp
  have h4 : ¬ (body.length + 4 < 4) := by omega
  simp only [hl, Nat.add_sub_cancel, List.drop_left', List.take_left', bne_self_eq_false, Bool.or_false,
    decide_eq_true_eq, h4, if_false]
  rfl

/-- a well-formed wheel name (5 or 6 dash-free components + `.whl`) yields exactly the three
    tag sets, compressed sets expanded on `.`, build tag skipped -/
theorem wheel_roundtrip (pre : List (List Char)) (py abi plat : List Char)
    (hlen : pre.length = 2 ∨ pre.length = 3)
    (hpre : ∀ p ∈ pre, '-' ∉ p) (hpy : '-' ∉ py) (habi : '-' ∉ abi) (hplat : '-' ∉ plat) :
    parseWheelTags (joinDash (pre ++ [py, abi, plat]) ++ ".whl".toList) =
      .ok (splitC '.' (py.map Char.toLower), splitC '.' (abi.map Char.toLower), splitC '.' (plat.map Char.toLower)) := by
  have hall : ∀ p ∈ pre ++ [py, abi, plat], '-' ∉ p :=
    List.forall_mem_append.2 ⟨hpre, by simp [hpy, habi, hplat]⟩
  have hne : pre ++ [py, abi, plat] ≠ [] := by simp
  rw [parseWheelTags_whl, count_joinDash _ hne hall, splitC_joinDash _ hne hall]
  rcases hlen with h | h <;> simp [h, List.reverse_append]

theorem bad_extension (name : List Char) (h : name.drop (name.length - 4) ≠ ".whl".toList) :
    parseWheelTags name = .error .badExtension := by
  unfold parseWheelTags
  have h' : (name.drop (name.length - 4) != ".whl".toList) = true := by simpa using h
  simp only [h', Bool.or_true, if_true]

theorem bad_part_count (body : List Char) (h : body.count '-' ≠ 4 ∧ body.count '-' ≠ 5) :
    parseWheelTags (body ++ ".whl".toList) = .error .badPartCount := by
  rw [parseWheelTags_whl, if_pos (by simp [h.1, h.2])]

theorem aliases :
    parsePlatform "linux" = .ok ⟨.manylinux 2 17, .x86_64⟩ ∧
    parsePlatform "windows" = .ok ⟨.windows, .x86_64⟩ ∧
    parsePlatform "macos" = .ok ⟨.macos 14 0, .aarch64⟩ ∧
    parsePlatform "alpine" = .ok ⟨.musllinux 1 2, .x86_64⟩ ∧
    parsePlatform "macos_arm64" = .ok ⟨.macos 14 0, .aarch64⟩ ∧
    parsePlatform "macos_x86_64" = .ok ⟨.macos 14 0, .x86_64⟩ ∧
    parsePlatform "windows_amd64" = .ok ⟨.windows, .x86_64⟩ ∧
    parsePlatform "windows_x86" = .ok ⟨.windows, .x86⟩ ∧
    parsePlatform "windows_arm64" = .ok ⟨.windows, .aarch64⟩ := by
  decide +kernel

example : parseWheelTags "foo-1.0-1-py2.py3-none-any.whl".toList =
    .ok (["py2".toList, "py3".toList], ["none".toList], ["any".toList]) := by decide +kernel

end C18
end DepLogic
