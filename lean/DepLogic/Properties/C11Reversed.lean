import DepLogic.Proofs.LexNorm
/-
  C11 / C02 — literal-on-the-left comparison atoms, closed form.

  After the `fix:` 4fb0145 the code merges a literal-on-the-left version atom through its specifier view
  only when `_has_exact_specifier` says so (`Atom.exactView`).  The guard is SUFFICIENT on canonical
  spellings: for every ordering/equality operator, every plain release literal `A.B.C…` and every
  environment whose value for the variable is a plain release, the atom `"A.B.C" op name` passes the
  guard and its specifier view is exact (`Atom.Coherent`); the hypotheses `LexRev` of
  `C11.coherent_reversed` are discharged with the lexing lemmas of Proofs/LexLemmas.lean.
  (Necessity — `~=`, wildcard and pre-release literals are NOT coherent — is the defect D21 itself, see
  `C02.atomRevCompat_good` and the example after it.)
-/
namespace DepLogic
namespace C11
open M Lex SpecParse

theorem relString_clean (rel : List Nat) : C11.Clean (".".intercalate (rel.map toString)).toList := by
  rw [toList_relString, ← List.append_nil (relText rel)]
  exact relText_clean rel [] ⟨nofun, nofun, nofun⟩

theorem reflect_ofCOp (cop : COp) : (MOp.ofCOp cop).reflect = MOp.ofCOp (cReflect cop) := by
  cases cop <;> rfl

theorem parseClauseL_relString (cop : COp) (rel : List Nat) (hr : rel ≠ []) :
    parseClauseL ((MOp.ofCOp cop).str.toList ++ (".".intercalate (rel.map toString)).toList) =
      some ⟨cop, { release := rel }, false⟩ := by
  rw [toList_relString, mop_str]
  simpa using parseClauseL_final cop rel hr false nofun

theorem parseVer_relString (rel : List Nat) (hr : rel ≠ []) :
    parseVer (trimS (".".intercalate (rel.map toString))) = some { release := rel } := by
  rw [trimS_of_no_blank _ (relString_clean rel).2.2]
  unfold parseVer
  rw [toList_relString]
  exact parseVerL_relText rel hr

theorem lexOne_relString (name : String) (cop : COp) (rel : List Nat) (hr : rel ≠ []) (rev : Bool) (spec : ASpec) :
    LexOne ⟨name, MOp.ofCOp cop, ".".intercalate (rel.map toString), rev, spec⟩ ⟨cop, { release := rel }, false⟩ :=
  lexOne_of_clean _ _ (ofCOp_cmp cop) (relString_clean rel) (parseClauseL_relString cop rel hr)

/-- `_has_exact_specifier` as one Boolean: the operand is one version (no `,`, no `|`), operator and operand do not
    spell `<empty>`, and a literal on the left is a plain release under an ordering or equality operator -/
theorem exactView_cmp (a : Atom) (hn : versionLikeNames.contains a.name = true) (hop : a.op ≠ .in_ ∧ a.op ≠ .notIn) :
    a.exactView = (!(a.value.toList.contains ',' || a.value.toList.contains '|') &&
      !(a.op == .lt && a.value.toList == ['e', 'm', 'p', 't', 'y', '>']) &&
      (!a.reversed || (a.op != .compat && (splitDots a.value).all fun p => (natOfDigits? p.toList).isSome))) := by
  have h1 : (a.op != .in_ && a.op != .notIn) = true := by simpa using hop
  have h2 : (a.op == .in_ || a.op == .notIn) = false := by simpa using hop
  unfold Atom.exactView
  rw [hn, h1, h2, Bool.not_true, Bool.and_false]
  -- `if c then false else x` is `!c && x`, `if c then true else x` is `c || x`
  cases a.value.toList.contains ',' || a.value.toList.contains '|' <;>
    cases a.op == .lt && a.value.toList == ['e', 'm', 'p', 't', 'y', '>'] <;> cases a.reversed <;> rfl

/-- **the guard is sufficient**: a canonical literal-on-the-left comparison atom passes
    `_has_exact_specifier` and evaluates exactly as its specifier view says -/
theorem reversed_canonical (env : Env) (name : String) (cop : COp) (hc : cop ≠ .compat)
    (rel relEnv : List Nat) (hr : rel ≠ []) (hre : relEnv ≠ []) (spec : ASpec)
    (hn : versionLikeNames.contains name = true)
    (hw : Atom.WF ⟨name, MOp.ofCOp cop, ".".intercalate (rel.map toString), true, spec⟩)
    (ht : env name = some (.str (".".intercalate (relEnv.map toString)))) :
    Atom.exactView ⟨name, MOp.ofCOp cop, ".".intercalate (rel.map toString), true, spec⟩ = true ∧
    Atom.Coherent env ⟨name, MOp.ofCOp cop, ".".intercalate (rel.map toString), true, spec⟩ := by
  constructor
  · have hkw : ((".".intercalate (rel.map toString)).toList == ['e', 'm', 'p', 't', 'y', '>']) = false := by
      rw [toList_relString]
      refine beq_false_of_ne fun e => not_mem_relText rel 'e' (by decide) (by decide) ?_
      rw [e]; simp
    rw [exactView_cmp _ hn (ofCOp_cmp cop)]
    simp only [List.contains_eq_mem, (relString_clean rel).1, (relString_clean rel).2.1, hkw, ofCOp_bne_compat cop hc,
      decide_false, Bool.or_false, Bool.and_false, Bool.not_false, Bool.not_true, Bool.true_and, Bool.false_or]
    rw [splitDots_join _ (by simpa using hr) (fun t ht => by
      obtain ⟨n, _, rfl⟩ := List.mem_map.1 ht
      rw [toString_toList]; exact not_mem_digs n '.' (by decide))]
    exact all_digits_map rel
  · have henv : parseClauseL ((MOp.ofCOp cop).reflect.str ++ trimS (".".intercalate (relEnv.map toString))).toList =
        some ⟨cReflect cop, { release := relEnv }, false⟩ := by
      rw [trimS_of_no_blank _ (relString_clean relEnv).2.2, String.toList_append, reflect_ofCOp]
      exact parseClauseL_relString (cReflect cop) relEnv hre
    exact coherent_reversed env _ cop { release := rel } { release := relEnv } hw hn rfl _ ht
      ⟨lexOne_relString name cop rel hr true spec, rfl, hc, henv, parseVer_relString rel hr⟩
      (parseVer_relString relEnv hre) rfl rfl

/-- such atoms on python_full_version / platform_release are Good atoms of the marker theorems: the
    merged branch of `GoodAtom`, not the opaque one -/
theorem reversed_canonical_good (env : Env) (name : String) (cop : COp) (hc : cop ≠ .compat)
    (rel relEnv : List Nat) (hr : rel ≠ []) (hre : relEnv ≠ []) (spec : ASpec)
    (hname : name = "python_full_version" ∨ name = "platform_release")
    (hw : Atom.WF ⟨name, MOp.ofCOp cop, ".".intercalate (rel.map toString), true, spec⟩)
    (ht : env name = some (.str (".".intercalate (relEnv.map toString)))) :
    GoodAtom env ⟨name, MOp.ofCOp cop, ".".intercalate (rel.map toString), true, spec⟩ := by
  have hn : versionLikeNames.contains name = true := by rcases hname with rfl | rfl <;> decide
  obtain ⟨_, hcoh⟩ := reversed_canonical env name cop hc rel relEnv hr hre spec hn hw ht
  refine .of_versionLike hw hn (.inr ⟨hcoh, ?_, ?_⟩)
  · -- the view is what the parser builds from the clause over a plain final release
    obtain ⟨s0, hs0, hspec⟩ := C11.spec_of_lex _ _ hw hn (ofCOp_cmp cop) (lexOne_relString name cop rel hr true spec)
    show ASpec.Canon spec
    rw [show spec = _ from hspec]
    exact nice_view _ _ hs0 ⟨rfl, rfl, hr⟩
  · intro hpv
    exfalso
    rcases hname with rfl | rfl <;> simp at hpv

/-- what the guard of `_merge_single_markers` (after the `fix:`es for D35 and D40) guarantees about a comparison atom
    on a version variable: operator and operand cannot spell a specifier EXPRESSION -/
theorem exactView_guards (a : Atom) (hn : versionLikeNames.contains a.name = true)
    (hop : a.op ≠ .in_ ∧ a.op ≠ .notIn) (h : a.exactView = true) :
    ',' ∉ a.value.toList ∧ '|' ∉ a.value.toList ∧ ¬ (a.op = .lt ∧ a.value.toList = ['e', 'm', 'p', 't', 'y', '>']) := by
  rw [exactView_cmp a hn hop] at h
  simp only [Bool.and_eq_true, Bool.not_eq_true', Bool.or_eq_false_iff, List.contains_eq_mem, decide_eq_false_iff_not] at h
  refine ⟨h.1.1.1, h.1.1.2, fun ⟨ho, hv⟩ => ?_⟩
  rw [ho, hv] at h
  exact absurd h.1.2 (by decide)

/-- **the guard is sufficient for forward atoms too**: an atom that passes it, whose operand has no blank and whose
    text `op + operand` is a clause, lexes as exactly ONE clause (`LexOne`, which defects D35 and D40 fell outside of) -/
theorem guard_lexOne (a : Atom) (c : Clause Ver) (hn : versionLikeNames.contains a.name = true)
    (hop : a.op ≠ .in_ ∧ a.op ≠ .notIn) (h : a.exactView = true) (hb : ' ' ∉ a.value.toList)
    (hp : SpecParse.parseClauseL (a.op.str.toList ++ a.value.toList) = some c) : LexOne a c := by
  obtain ⟨h1, h2, _⟩ := exactView_guards a hn hop h
  exact lexOne_of_clean a c hop ⟨h1, h2, hb⟩ hp

end C11
end DepLogic
