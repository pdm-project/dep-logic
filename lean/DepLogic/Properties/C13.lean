import DepLogic.Proofs.MarkerSingles
import DepLogic.Proofs.VersionOrder
import DepLogic.Proofs.CutAlgebra
/-
  C13 — equality is an equivalence compatible with hashing, for specifiers and markers.

  Specifiers: `Spec.beq` (the model of `__eq__` with CPython's `NotImplemented` → reflected
  dispatch) is reflexive, symmetric, transitive on canonical objects, equal objects have the
  same `hashKey` (what Python feeds to `hash`, after the `fix:` for AnySpecifier), and equal
  objects admit the same versions.
  Markers: `==` is an equivalence on all markers (`M.beq_trans` needs no hypothesis); on well-formed
  markers (every atom's specifier is the one derived from its own fields – true of everything the
  library builds after the `fix:` for from_specifier) it IS structural equality, hence
  hash-compatible and a congruence for every operation whatsoever.
-/
namespace DepLogic
namespace C13
open Spec LinPre

theorem spec_refl (s : Spec Ver) : s.beq s = true := Spec.beq_refl s
theorem spec_symm (a b : Spec Ver) : a.beq b = b.beq a := Spec.beq_symm a b

theorem zip_forall_iff (xs ys : List (Range Ver)) :
    (∀ a b, (a, b) ∈ xs.zip ys → a.beq b = true) ↔ ((xs.zip ys).all fun p => p.1.beq p.2) = true := by
  simp only [List.all_eq_true, Prod.forall]

/-- also across the two spellings of the universal specifier, `AnySpecifier()` and `RangeSpecifier()` -/
theorem spec_trans (a b c : Spec Ver) (ha : Canon a) (hc : Canon c)
    (h1 : a.beq b = true) (h2 : b.beq c = true) : a.beq c = true :=
  beq_trans { release := [0] } a b c ha hc h1 h2

/-- what Python feeds to `hash`: the dataclass field tuple with `Version.__hash__` = hash of the
    version key; `AnySpecifier` hashes as the unbounded `RangeSpecifier()` (after the `fix:`) -/
def rangeHashKey (r : Range Ver) : Option (List Nat) × Option (List Nat) × Bool × Bool :=
  (r.min.map Ver.key, r.max.map Ver.key, r.incMin, r.incMax)

inductive HashKey where
  | empty
  | range (k : Option (List Nat) × Option (List Nat) × Bool × Bool)
  | union (ks : List (Option (List Nat) × Option (List Nat) × Bool × Bool))
deriving DecidableEq

def hashKey : Spec Ver → HashKey
  | .empty => .empty
  | .any => .range (none, none, false, false)
  | .range r => .range (rangeHashKey r)
  | .union rs _ => .union (rs.map rangeHashKey)

theorem key_eq_of_eqv (a b : Ver) (h : eqv a b) : a.key = b.key :=
  List.le_antisymm h.1 h.2

theorem Range.beq_hash (a b : Range Ver) (h : a.beq b = true) : rangeHashKey a = rangeHashKey b := by
  rcases a with ⟨mn, mx, i, j, t⟩
  rcases b with ⟨mn', mx', i', j', t'⟩
  simp only [Range.beq, Bool.and_eq_true, beq_iff_eq] at h
  obtain ⟨⟨⟨h1, h2⟩, h3⟩, h4⟩ := h
  -- bound by bound: what `==` asks of a bound is what the hash key keeps of it
  have e1 : mn.map Ver.key = mn'.map Ver.key := by
    cases mn <;> cases mn' <;> simp only [decide_eq_true_eq, Bool.false_eq_true] at h1
    · rfl
    · exact congrArg some (key_eq_of_eqv _ _ h1)
  have e2 : mx.map Ver.key = mx'.map Ver.key := by
    cases mx <;> cases mx' <;> simp only [decide_eq_true_eq, Bool.false_eq_true] at h2
    · rfl
    · exact congrArg some (key_eq_of_eqv _ _ h2)
  simp only [rangeHashKey, e1, e2, h3, h4]

/-- a canonical range without bounds has no inclusive flag, so it hashes as `AnySpecifier()` does -/
theorem hash_of_isAny (r : Range Ver) (h : r.WF) (ha : r.isAny = true) : hashKey (.range r) = hashKey .any := by
  rcases r with ⟨mn, mx, i, j, t⟩
  cases mn <;> cases mx <;> simp [Range.isAny] at ha
  simp [Range.WF, Range.ctorOk] at h
  simp [hashKey, rangeHashKey, h]

theorem hash_of_beqL : ∀ xs ys : List (Range Ver), beqL xs ys = true → xs.map rangeHashKey = ys.map rangeHashKey
  | [], [], _ => rfl
  | [], _ :: _, h | _ :: _, [], h => by simp [beqL] at h
  | x :: xs, y :: ys, h => by
    rw [beqL_cons, Bool.and_eq_true] at h
    rw [List.map_cons, List.map_cons, Range.beq_hash x y h.1, hash_of_beqL xs ys h.2]

/-- `x == y` implies `hash(x) == hash(y)` on canonical specifier objects -/
theorem spec_hash (a b : Spec Ver) (ha : Canon a) (hb : Canon b) (h : a.beq b = true) : hashKey a = hashKey b := by
  -- the pairs of classes that can be `==`: the same class, or `AnySpecifier()` and a universal range
  cases a <;> cases b <;> simp only [Spec.beq, Spec.isAny, Bool.false_eq_true] at h
  · rfl
  · rfl
  · exact (hash_of_isAny _ hb h).symm
  · exact hash_of_isAny _ ha h
  · exact congrArg HashKey.range (Range.beq_hash _ _ h)
  · exact congrArg HashKey.union (hash_of_beqL _ _ h)

/-- `C05.eq_sound` at PEP 440 versions -/
theorem spec_interchangeable (x y : Spec Ver) (h : x.beq y = true) (v : Ver) : x.mem v ↔ y.mem v :=
  C05.eq_sound x y h v


mutual
def AllWF : M → Prop
  | .expr a => a.WF
  | .multi ms => AllWFL ms
  | .union ms => AllWFL ms
  | _ => True
def AllWFL : List M → Prop
  | [] => True
  | m :: ms => AllWF m ∧ AllWFL ms
end

mutual
/-- every specifier recomputed from the atom's own fields: a well-formed marker is recovered from what `==`
    sees of it (`M.strip`) -/
def respec : M → M
  | .expr a => .expr { a with spec := (getSpecifier a.name a.op a.value a.reversed).getD a.spec }
  | .multi ms => .multi (respecL ms)
  | .union ms => .union (respecL ms)
  | m => m
def respecL : List M → List M
  | [] => []
  | m :: ms => respec m :: respecL ms
end

mutual
theorem respec_strip : ∀ (x : M), AllWF x → respec (M.strip x) = x
  | .expr a, h => by
    simp only [M.strip, respec]
    rw [show getSpecifier a.name a.op a.value a.reversed = some a.spec from h]
    rfl
  | .multi ms, h => by simp only [M.strip, respec]; rw [respecL_strip ms h]
  | .union ms, h => by simp only [M.strip, respec]; rw [respecL_strip ms h]
  | .any, _ | .empty, _ | .eqU _ _, _ | .neM _ _, _ => rfl
theorem respecL_strip : ∀ (xs : List M), AllWFL xs → respecL (M.stripL xs) = xs
  | [], _ => rfl
  | x :: xs, h => by simp only [M.stripL, respecL]; rw [respec_strip x h.1, respecL_strip xs h.2]
end

/-- on well-formed markers Python `==` is structural equality -/
theorem eq_of_beq : ∀ (x y : M), AllWF x → AllWF y → M.beq x y = true → x = y := by
  intro x y hx hy h
  rw [← respec_strip x hx, (M.beq_iff_strip x y).1 h, respec_strip y hy]

theorem Atom.eq_of_beq (a b : Atom) (ha : a.WF) (hb : b.WF) (h : a.beq b = true) : a = b :=
  M.expr.inj (C13.eq_of_beq (.expr a) (.expr b) ha hb h)

theorem eqList_of_beq : ∀ (xs ys : List M), AllWFL xs → AllWFL ys → M.beqList xs ys = true → xs = ys := by
  intro xs ys hx hy h
  rw [← respecL_strip xs hx, (M.beqList_iff_strip xs ys).1 h, respecL_strip ys hy]

theorem beqList_refl : ∀ (xs : List M), M.beqList xs xs = true := M.beqList_refl

/-- the well-formedness hypotheses are not used -/
theorem marker_equivalence :
    (∀ x : M, M.beq x x = true) ∧ (∀ x y : M, M.beq x y = M.beq y x) ∧
    (∀ x y z : M, AllWF x → AllWF y → AllWF z → M.beq x y = true → M.beq y z = true → M.beq x z = true) :=
  ⟨M.beq_refl, M.beq_symm, fun x y z _ _ _ => M.beq_trans x y z⟩

/-- equal markers are interchangeable in every context: same text, same evaluation, same result of
    any operation `f` – in particular they hash alike (hash is a function of the object) -/
theorem marker_congruence {β : Type} (f : M → β) (x y : M) (hx : AllWF x) (hy : AllWF y)
    (h : M.beq x y = true) : f x = f y := by rw [eq_of_beq x y hx hy h]

theorem marker_eval_congr (env : M.Env) (x y : M) (h : M.beq x y = true) : M.sem env x = M.sem env y :=
  M.beq_sem env x y h

end C13
end DepLogic
