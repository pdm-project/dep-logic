import DepLogic.Model.Quote
import DepLogic.Proofs.LexLemmas
/-
  C07, the literal step — for EVERY string value `v` (every Lean `String`: all Unicode scalar values, control
  characters, NUL, both quote characters, backslashes), the text `_quote` writes for it is read back by packaging
  as exactly `v`:

  `quote_shape`     : the written text is `q body q` with the delimiter nowhere in `body` (so it is one QUOTED_STRING
                      token, whatever follows it: `scan_body`), and evaluating `body` as a Python string literal gives
                      `v` back;
  `read_quote`      : both, as `readLiteral (quoteL v ++ rest) = some (v, rest)`; `quote_roundtrip`: nothing follows.

  dep-logic's defects D27 (quotes, backslashes) and D36 (NUL) and seed C07g (both quotes) are about this step.
  Lone surrogates are not Lean characters: that part of D36 is covered differentially only.
-/
namespace DepLogic
namespace C07
open Quote

/-- `h`: the delimiter occurs in the value only as a `"` written inside double quotes, where it is escaped -/
theorem esc_ok (dq : Bool) (q c : Char) (r : List Char) (hq : q = '"' ∨ q = '\'') (h : c = q → dq = true ∧ c = '"') :
    q ∉ escChar dq c ∧ run q .normal (escChar dq c ++ r) = consO c (run q .normal r) := by
  -- an escape holds no quote character, and none of the reader's steps over it looks at the delimiter (`rfl`)
  have esc : ∀ e ∈ [['\\', '\\'], ['\\', 'n'], ['\\', 'r'], ['\\', 'u', '0', '0', '0', '0'], ['\\', 'x', '2', '2']], q ∉ e := by
    rcases hq with rfl | rfl <;> decide
  fun_cases escChar dq c
  case case6 h1 h2 h3 h4 h5 =>
    have hcq : c ≠ q := fun e => h5 (by simpa using h e)
    exact ⟨fun hm => hcq (List.mem_singleton.1 hm).symm, by simp [run, step, h1, h2, h3, h4, hcq]⟩
  case case5 h5 =>
    obtain ⟨_, rfl⟩ : dq = true ∧ c = '"' := by simpa using h5
    exact ⟨esc _ (by simp), rfl⟩
  all_goals subst c; exact ⟨esc _ (by simp), rfl⟩

theorem body_ok (dq : Bool) (q : Char) (hq : q = '"' ∨ q = '\'') : ∀ (v : List Char),
    (∀ c ∈ v, c = q → dq = true ∧ c = '"') →
    q ∉ v.flatMap (escChar dq) ∧ run q .normal (v.flatMap (escChar dq)) = some v
  | [], _ => ⟨nofun, rfl⟩
  | c :: cs, h => by
    obtain ⟨hc, hcs⟩ := List.forall_mem_cons.1 h
    obtain ⟨i1, i2⟩ := body_ok dq q hq cs hcs
    obtain ⟨e1, e2⟩ := esc_ok dq q c (cs.flatMap (escChar dq)) hq hc
    rw [List.flatMap_cons, e2, i2]
    exact ⟨fun hm => (List.mem_append.1 hm).elim e1 i1, rfl⟩

theorem quote_shape (v : List Char) :
    ∃ q body, quoteL v = q :: body ++ [q] ∧ (q = '"' ∨ q = '\'') ∧ q ∉ body ∧ pyUnescape q body = some v := by
  fun_cases quoteL v
  · next hs =>
    simp only [Bool.and_eq_true, Bool.not_eq_true', List.contains_eq_mem, decide_eq_true_eq, decide_eq_false_iff_not] at hs
    exact ⟨'\'', _, rfl, Or.inr rfl, body_ok false '\'' (Or.inr rfl) v fun c hc e => absurd (e ▸ hc) hs.2⟩
  · exact ⟨'"', _, rfl, Or.inl rfl, body_ok true '"' (Or.inl rfl) v fun c _ e => ⟨rfl, e⟩⟩

theorem scan_body (q : Char) (body rest : List Char) (hq : q = '"' ∨ q = '\'') (hb : q ∉ body) :
    scanQuoted (q :: body ++ q :: rest) = some (q, body, rest) := by
  obtain ⟨h1, h2⟩ := Lex.run_then (· != q) body (q :: rest) (fun c hc => bne_iff_ne.2 fun e => hb (e ▸ hc)) (by simp)
  unfold scanQuoted
  simp only [List.cons_append, h2, h1]
  rw [if_pos (by simpa using hq)]

theorem read_quote (v rest : List Char) : readLiteral (quoteL v ++ rest) = some (v, rest) := by
  obtain ⟨q, body, hshape, hq, hnot, hun⟩ := quote_shape v
  unfold readLiteral
  rw [hshape, List.append_assoc, List.singleton_append, scan_body q body rest hq hnot]
  simp [hun]

theorem quote_roundtrip (v : List Char) : readLiteral (quoteL v) = some (v, []) := by
  simpa using read_quote v []

/-! kernel-checked instances, the inputs of D27 / D36 / seed C07g (character lists: `String.toList` of a literal
    does not reduce cheaply) -/
example : quoteL ['s', 'a', 'y', ' ', '"', 'h', 'i', '"'] = ['\'', 's', 'a', 'y', ' ', '"', 'h', 'i', '"', '\''] := by decide +kernel
example : quoteL ['\'', ' ', '"'] = ['"', '\'', ' ', '\\', 'x', '2', '2', '"'] := by decide +kernel
example : quoteL ['a', nul, 'b'] = ['"', 'a', '\\', 'u', '0', '0', '0', '0', 'b', '"'] := by decide +kernel
example : readLiteral ['"', 'a', '\\', 'u', '0', '0', '0', '0', 'b', '"', ' ', 'o', 'r'] = some (['a', nul, 'b'], [' ', 'o', 'r']) := by
  decide +kernel
/-- seed C07g's rendering (`'it's "ok"'`) is not read back -/
example : readLiteral (['\'', 'i', 't', '\'', 's', ' ', '"', 'o', 'k', '"', '\'']) ≠ some (['i', 't', '\'', 's', ' ', '"', 'o', 'k', '"'], []) := by
  decide +kernel

end C07
end DepLogic
