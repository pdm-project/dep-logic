import DepLogic.Model.Tags
import DepLogic.Properties.C05
import DepLogic.Proofs.CutAlgebra
/-
  C16 — widening a target never loses wheels; `compare()` is consistent with tag inclusion.
-/
namespace DepLogic
namespace C16
open Spec LinPre

section generic
variable {α : Type} [LinPre α]

/-- the emptiness test used by `compare` and `_evaluate_python` does not depend on operand order -/
theorem and_isEmpty_comm (a b : Spec α) : (a.and b).isEmpty = (b.and a).isEmpty := by
  -- with `EmptySpecifier()` or `AnySpecifier()` on a side, and for a range against a union (the reflected
  -- method), both orders compute the same thing
  cases a <;> cases b <;> try rfl
  · rename_i r o
    have := Range.and_isNone_comm r o
    simp only [Spec.and]
    cases h1 : r.and o <;> cases h2 : o.and r <;> simp [h1, h2, isEmpty] at this ⊢
  · rename_i xs _ ys _
    simp only [Spec.and, fromRanges_isEmpty]
    exact andProduct_isEmpty_comm xs ys

/-- `Spec.beq_refl`, `Spec.beq_symm` (Proofs/CutAlgebra.lean), quoted under the names the checks use -/
theorem beq_refl (s : Spec α) : s.beq s = true := Spec.beq_refl s
theorem beq_symm (a b : Spec α) : a.beq b = b.beq a := Spec.beq_symm a b

/-- widening requires_python never loses a wheel – on a dense version line (for the PEP 440
    order itself gap ranges are a recorded known finding, as for C05) -/
theorem widen_keeps [C05.DenseUnbounded α] (w A B : Spec α) (hw : Canon w) (hA : Canon A) (_hB : Canon B)
    (hsub : ∀ v, A.mem v → B.mem v) (h : (w.and A).isEmpty = false) : (w.and B).isEmpty = false := by
  obtain ⟨v, h1, h2⟩ := (C05.and_nonempty w A hw hA).1 h
  exact (C05.and_nonempty w B hw _hB).2 ⟨v, h1, hsub v h2⟩

/-- over cuts, for ANY order of bounds (PEP 440 included) -/
theorem widen_keeps_cuts (a0 : α) (w A B : Spec α) (hw : Canon w) (hA : Canon A) (hB : Canon B)
    (hsub : ∀ x s, A.memC x s → B.memC x s) (h : (w.and A).isEmpty = false) : (w.and B).isEmpty = false := by
  obtain ⟨x, s, h1, h2⟩ := (C05.and_nonempty_cuts a0 w A hw hA).1 h
  exact (C05.and_nonempty_cuts a0 w B hw hB).2 ⟨x, s, h1, hsub x s h2⟩

/-- in particular: widening by `|` (the way a requires_python is widened) never loses a wheel -/
theorem widen_or_keeps (a0 : α) (w A C B : Spec α) (hw : Canon w) (hA : Canon A) (hC : Canon C)
    (hor : A.or C = some B) (h : (w.and A).isEmpty = false) : (w.and B).isEmpty = false := by
  obtain ⟨B', hB', cB, mB⟩ := Spec.or_memC A C hA hC
  rw [hor] at hB'; cases hB'
  exact widen_keeps_cuts a0 w A B hw hA cB (fun x s hm => (mB x s).2 (Or.inl hm)) h

end generic

theorem envBeq_refl (a : EnvSpec) : a.beq a = true := by simp [EnvSpec.beq, beq_refl]

theorem compare_refl (a : EnvSpec) : compare a a = .lowerOrEqual := by simp [compare, envBeq_refl]

theorem envBeq_symm (a b : EnvSpec) : a.beq b = b.beq a := by
  unfold EnvSpec.beq
  rw [beq_symm a.requiresPython, decide_eq_decide.2 (eq_comm (a := a.platform)),
    decide_eq_decide.2 (eq_comm (a := a.impl))]

theorem sameClass_symm (p q : Os) : p.sameClass q = q.sameClass p := by
  -- only the unordered classes carry a test, `==` on their names
  cases p <;> cases q <;> try rfl
  exact BEq.comm

theorem implClash_symm (a b : Option Impl) : implClash a b = implClash b a := by
  cases a <;> cases b <;> try rfl
  exact decide_eq_decide.2 ne_comm

/-- the OS classes whose releases `compare` orders by `(major, minor)` -/
inductive Numbered : (Nat → Nat → Os) → Prop
  | manylinux : Numbered .manylinux
  | musllinux : Numbered .musllinux
  | macos : Numbered .macos

theorem sameClass_cases {o o' : Os} (h : o.sameClass o' = true) :
    (∃ mk, Numbered mk ∧ ∃ a m b n, o = mk a m ∧ o' = mk b n) ∨ (o.majorMinor? = none ∧ o'.majorMinor? = none) := by
  -- off the diagonal `sameClass` computes to `false`
  cases o <;> cases o' <;> try exact absurd h Bool.false_ne_true
  · exact Or.inl ⟨_, .manylinux, _, _, _, _, rfl, rfl⟩
  · exact Or.inl ⟨_, .musllinux, _, _, _, _, rfl, rfl⟩
  · exact Or.inr ⟨rfl, rfl⟩
  · exact Or.inl ⟨_, .macos, _, _, _, _, rfl, rfl⟩
  · exact Or.inr ⟨rfl, rfl⟩

theorem platCompare_of_ne (p q : Platform) (h : ¬ (p.arch = q.arch ∧ p.os.sameClass q.os = true)) :
    platCompare p q = .incompatible := by
  unfold platCompare
  by_cases ha : p.arch = q.arch
  · rw [if_neg (by simp [ha]), if_pos (by simpa [ha] using h)]
  · rw [if_pos (by simpa using ha)]

theorem platCompare_numbered {mk : Nat → Nat → Os} (hmk : Numbered mk) (ar : Arch) (a m b n : Nat) :
    platCompare ⟨mk a m, ar⟩ ⟨mk b n, ar⟩ = if a < b ∨ a = b ∧ m ≤ n then .lowerOrEqual else .higher := by
  cases hmk <;>
    simp only [platCompare, Os.sameClass, Os.majorMinor?, bne_self_eq_false, Bool.not_true, Bool.false_eq_true,
      if_false, Bool.or_eq_true, Bool.and_eq_true, decide_eq_true_eq, beq_iff_eq]

theorem platCompare_unnumbered (p q : Platform) (ha : p.arch = q.arch) (hc : p.os.sameClass q.os = true)
    (hp : p.os.majorMinor? = none) : platCompare p q = if p.os = q.os then .lowerOrEqual else .incompatible := by
  unfold platCompare
  simp only [ha, bne_self_eq_false, hc, hp, Bool.not_true, Bool.false_eq_true, if_false]

/-- incomparable, two releases of one numbered family (`platCompare_numbered`), or equal -/
theorem platCompare_view (po qo : Os) (pa qa : Arch) :
    (platCompare ⟨po, pa⟩ ⟨qo, qa⟩ = .incompatible ∧ platCompare ⟨qo, qa⟩ ⟨po, pa⟩ = .incompatible) ∨
    (∃ mk, Numbered mk ∧ ∃ a m b n, po = mk a m ∧ qo = mk b n ∧ pa = qa) ∨
    (po = qo ∧ pa = qa ∧ platCompare ⟨po, pa⟩ ⟨qo, qa⟩ = .lowerOrEqual) := by
  by_cases hc : pa = qa ∧ po.sameClass qo = true
  · obtain ⟨rfl, hc⟩ := hc
    rcases sameClass_cases hc with ⟨mk, hmk, a, m, b, n, rfl, rfl⟩ | ⟨hp, hq⟩
    · exact Or.inr (Or.inl ⟨mk, hmk, a, m, b, n, rfl, rfl, rfl⟩)
    · have e1 := platCompare_unnumbered ⟨po, pa⟩ ⟨qo, pa⟩ rfl hc hp
      have e2 := platCompare_unnumbered ⟨qo, pa⟩ ⟨po, pa⟩ rfl (sameClass_symm po qo ▸ hc) hq
      by_cases he : po = qo
      · exact Or.inr (Or.inr ⟨he, rfl, by rw [e1, if_pos he]⟩)
      · exact Or.inl ⟨by rw [e1, if_neg he], by rw [e2, if_neg (Ne.symm he)]⟩
  · have hc' : ¬ (qa = pa ∧ qo.sameClass po = true) := by rwa [sameClass_symm, eq_comm]
    exact Or.inl ⟨platCompare_of_ne _ _ hc, platCompare_of_ne _ _ hc'⟩

theorem platCompare_swap (p q : Platform) :
    (platCompare p q = .incompatible ↔ platCompare q p = .incompatible) ∧
    (platCompare p q = .higher → platCompare q p = .lowerOrEqual) := by
  obtain ⟨po, pa⟩ := p
  obtain ⟨qo, qa⟩ := q
  rcases platCompare_view po qo pa qa with ⟨e1, e2⟩ | ⟨mk, hmk, a, m, b, n, rfl, rfl, rfl⟩ | ⟨rfl, rfl, e⟩
  · rw [e1, e2]
    exact ⟨Iff.rfl, nofun⟩
  · -- neither answer is `incompatible`, and the lexicographic order is total
    rw [platCompare_numbered hmk, platCompare_numbered hmk]
    constructor
    · constructor <;> (intro h; split at h <;> cases h)
    · intro h
      split at h
      · cases h
      · rw [if_pos (by omega)]
  · rw [e]
    exact ⟨Iff.rfl, nofun⟩

theorem ite_rel {β : Type} {R : β → β → Prop} {c : Prop} [Decidable c] {x x' y y' : β} (hx : R x x') (hy : R y y') :
    R (if c then x else y) (if c then x' else y') := by
  split <;> assumption

/-- the tests `compare` makes before it looks at the platforms are symmetric, so `R` need only hold of the
    two early answers and of `platCompare` in both directions -/
theorem compare_swap_ind (R : EnvCompat → EnvCompat → Prop)
    (hle : R .lowerOrEqual .lowerOrEqual) (hin : R .incompatible .incompatible)
    (hplat : ∀ p q, R (platCompare p q) (platCompare q p)) (a b : EnvSpec) : R (compare a b) (compare b a) := by
  unfold compare
  rw [envBeq_symm b a, and_isEmpty_comm b.requiresPython a.requiresPython, implClash_symm b.impl a.impl]
  refine ite_rel hle (ite_rel hin (ite_rel hin ?_))
  -- a spec without a platform compares LOWER_OR_EQUAL
  cases a.platform with
  | none => cases b.platform <;> exact hle
  | some p =>
    cases b.platform with
    | none => exact hle
    | some q => exact hplat p q

theorem compare_incompatible_symm (a b : EnvSpec) :
    compare a b = .incompatible ↔ compare b a = .incompatible :=
  compare_swap_ind (fun x y => x = .incompatible ↔ y = .incompatible) Iff.rfl Iff.rfl
    (fun p q => (platCompare_swap p q).1) a b

theorem compare_not_higher_both (a b : EnvSpec) : ¬ (compare a b = .higher ∧ compare b a = .higher) :=
  compare_swap_ind (fun x y => ¬ (x = .higher ∧ y = .higher)) (fun h => nomatch h.1) (fun h => nomatch h.1)
    (fun p q ⟨h1, h2⟩ => by rw [(platCompare_swap p q).2 h1] at h2; cases h2) a b

end C16
end DepLogic
