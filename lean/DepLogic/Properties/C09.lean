import DepLogic.Model.Tags
/-
  C09 — platform tag sets and preference order follow PEP 600 / PEP 656 / the macOS rules.
  Structured tags (`PTag`); `PTag.str` is what the code appends.  For every minor/major,
  not only those of the grid.
-/
namespace DepLogic
namespace C09

/-- no bound on `cnt` is needed: the steps past zero repeat `0`, which the right side admits as soon as `cnt > hi` -/
theorem downFrom_mem (lo : Nat) : ∀ (cnt hi x : Nat), x ∈ downFrom lo cnt hi ↔ (x ≤ hi ∧ hi < x + cnt)
  | 0, hi, x => by simp only [downFrom, List.not_mem_nil, false_iff]; omega
  | n + 1, hi, x => by
    rw [downFrom, List.mem_cons, downFrom_mem lo n (hi - 1) x]
    omega

theorem rangeDown_mem (hi lo x : Nat) : x ∈ rangeDown hi lo ↔ (lo < x ∧ x ≤ hi) := by
  rw [rangeDown, downFrom_mem]
  omega

theorem downFrom_pairwise (lo : Nat) : ∀ (cnt hi : Nat), cnt ≤ hi + 1 →
    (downFrom lo cnt hi).Pairwise (· > ·) := by
  intro cnt
  induction cnt with
  | zero => intro hi _; exact List.Pairwise.nil
  | succ n ih =>
    intro hi h
    simp only [downFrom, List.pairwise_cons]
    refine ⟨fun y hy => ?_, ih (hi - 1) (by omega)⟩
    have := (downFrom_mem lo n (hi - 1) y).1 hy
    omega

theorem downFrom_sorted (lo : Nat) : ∀ (cnt hi : Nat), cnt ≤ hi →
    (downFrom lo cnt hi).Pairwise (· > ·) :=
  fun cnt hi h => downFrom_pairwise lo cnt hi (by omega)

theorem manylinuxLoop_eq (major : Nat) (arch : Arch) : ∀ (cnt hi : Nat),
    manylinuxLoop major arch cnt hi =
      (downFrom 0 cnt hi).flatMap fun K => .manylinux major K arch :: legacyFor K arch
  | 0, _ => rfl
  | cnt + 1, hi => by
    simp only [manylinuxLoop, downFrom, List.flatMap_cons, manylinuxLoop_eq major arch cnt (hi - 1)]

theorem manylinuxLoop_mem (major : Nat) (arch : Arch) (cnt hi : Nat) (t : PTag) :
    t ∈ manylinuxLoop major arch cnt hi ↔
      ∃ K, K ≤ hi ∧ hi < K + cnt ∧ (t = .manylinux major K arch ∨ t ∈ legacyFor K arch) := by
  simp only [manylinuxLoop_eq, List.mem_flatMap, downFrom_mem, List.mem_cons, and_assoc]

/-- the tag set of a manylinux target (statement of C09, first clause): `linux_<arch>`, and from the
    architecture's glibc floor `f` (if it has one) up to the target every `manylinux_M_K` with its legacy alias -/
theorem manylinux_tags (major minor : Nat) (arch : Arch) (t : PTag) :
    (∃ l, compatibleTags ⟨.manylinux major minor, arch⟩ = some l ∧
      (t ∈ l ↔ (t = .linux arch ∨ ∃ f, arch.minManylinuxMinor = some f ∧
        ∃ K, f ≤ K ∧ K ≤ minor ∧ (t = .manylinux major K arch ∨ t ∈ legacyFor K arch)))) := by
  cases hf : arch.minManylinuxMinor with
  | none => exact ⟨[.linux arch], by simp only [compatibleTags, hf]; rfl, by simp⟩
  | some f =>
    refine ⟨manylinuxLoop major arch (minor + 1 - f) minor ++ [.linux arch], by simp only [compatibleTags, hf], ?_⟩
    -- the loop makes `minor + 1 - f` steps: none when the target is older than the floor
    have hfloor : ∀ K, (K ≤ minor ∧ minor < K + (minor + 1 - f)) ↔ (f ≤ K ∧ K ≤ minor) := fun K => by omega
    rw [List.mem_append, manylinuxLoop_mem, List.mem_singleton, or_comm]
    simp only [← and_assoc, hfloor, Option.some.injEq, exists_eq_left']

/-- preference key: newest glibc first, the legacy alias directly after its PEP 600 twin,
    `linux_<arch>` last -/
def mlKey : PTag → Nat
  | .manylinux _ K _ => 2 * K + 2
  | .legacy "1" _ => 2 * 5 + 1
  | .legacy "2010" _ => 2 * 12 + 1
  | .legacy "2014" _ => 2 * 17 + 1
  | _ => 0

theorem legacyFor_cases (K : Nat) (arch : Arch) :
    legacyFor K arch = [] ∨ ∃ t, legacyFor K arch = [t] ∧ mlKey t = 2 * K + 1 := by
  by_cases h1 : K = 12
  · subst h1; exact Or.inr ⟨_, rfl, rfl⟩
  by_cases h2 : K = 17
  · subst h2; exact Or.inr ⟨_, rfl, rfl⟩
  by_cases h3 : K = 5
  · subst h3; exact Or.inr ⟨_, rfl, rfl⟩
  exact Or.inl (by simp [legacyFor, h1, h2, h3])

/-- the preference order of C09: the manylinux part of the list is strictly decreasing in the key -/
theorem manylinuxLoop_sorted (major : Nat) (arch : Arch) : ∀ (cnt hi : Nat), cnt ≤ hi + 1 →
    (manylinuxLoop major arch cnt hi).Pairwise (fun a b => mlKey a > mlKey b) := by
  intro cnt hi h
  -- the tags of minor `K` have keys `2K+2` and (the alias, if any) `2K+1`
  have block : ∀ K, ∀ t ∈ PTag.manylinux major K arch :: legacyFor K arch, 2 * K + 1 ≤ mlKey t ∧ mlKey t ≤ 2 * K + 2 := by
    intro K t ht
    rcases legacyFor_cases K arch with e | ⟨y, e, hy⟩ <;> rw [e] at ht <;>
      simp only [List.mem_cons, List.not_mem_nil, or_false] at ht
    · subst ht; exact ⟨Nat.le_succ _, Nat.le_refl _⟩
    · rcases ht with rfl | rfl
      · exact ⟨Nat.le_succ _, Nat.le_refl _⟩
      · omega
  rw [manylinuxLoop_eq, List.pairwise_flatMap]
  constructor
  · intro K _
    rcases legacyFor_cases K arch with e | ⟨y, e, hy⟩ <;> rw [e]
    · exact List.pairwise_singleton _ _
    · exact List.pairwise_pair.2 (by rw [hy]; exact Nat.lt_succ_self _)
  · refine (downFrom_pairwise 0 cnt hi h).imp fun {K K'} hK x hx y hy => ?_
    have := block K x hx
    have := block K' y hy
    omega

/-- musllinux: `linux_<arch>` and `musllinux_M_K` for 1 ≤ K ≤ minor -/
theorem musllinux_tags (major minor : Nat) (arch : Arch) (t : PTag) :
    ∃ l, compatibleTags ⟨.musllinux major minor, arch⟩ = some l ∧
      (t ∈ l ↔ (t = .linux arch ∨ ∃ K, 1 ≤ K ∧ K ≤ minor ∧ t = .musllinux major K arch)) := by
  refine ⟨_, rfl, ?_⟩
  simp only [List.mem_cons, List.mem_map, List.mem_range]
  constructor
  · rintro (h | ⟨i, hi, rfl⟩)
    · exact Or.inl h
    · exact Or.inr ⟨i + 1, by omega, by omega, rfl⟩
  · rintro (h | ⟨K, h1, h2, rfl⟩)
    · exact Or.inl h
    · exact Or.inr ⟨K - 1, by omega, by congr; omega⟩

theorem mem_macLoop (fmts : List String) (hi lo : Nat) (g : Nat → String → PTag) (t : PTag) :
    t ∈ ((rangeDown hi lo).flatMap fun M => fmts.map fun f => g M f) ↔
      ∃ M, lo < M ∧ M ≤ hi ∧ ∃ f ∈ fmts, t = g M f := by
  simp only [List.mem_flatMap, List.mem_map, rangeDown_mem, and_assoc, eq_comm]

/-- macOS on Apple silicon: every yearly release from 11 up to the target as arm64/universal2, and
    universal2 back to 10.4 (for a target below 11 only the latter) -/
theorem macos_arm64_tags (major minor : Nat) (t : PTag) :
    ∃ l, compatibleTags ⟨.macos major minor, .aarch64⟩ = some l ∧
      (t ∈ l ↔ ((∃ M, 11 ≤ M ∧ M ≤ major ∧ (t = .macosx M 0 "arm64" ∨ t = .macosx M 0 "universal2")) ∨
                (∃ j, 4 ≤ j ∧ j ≤ 16 ∧ t = .macosx 10 j "universal2"))) := by
  refine ⟨_, rfl, ?_⟩
  simp only [List.mem_append, mem_macLoop, List.mem_map, rangeDown_mem, Arch.macFormats, List.mem_cons,
    List.not_mem_nil, or_false, exists_eq_or_imp, exists_eq_left, and_assoc, eq_comm (b := t)]
  -- what is left differs from the statement only in `10 < M` for `11 ≤ M`, the same by definition
  exact Iff.rfl

/-- macOS 10.x on Intel: every 10.j for 4 ≤ j ≤ minor in every binary format of the arch -/
theorem macos10_x86_64_tags (minor : Nat) (t : PTag) :
    ∃ l, compatibleTags ⟨.macos 10 minor, .x86_64⟩ = some l ∧
      (t ∈ l ↔ ∃ j f, 4 ≤ j ∧ j ≤ minor ∧ f ∈ Arch.x86_64.macFormats ∧ t = .macosx 10 j f) := by
  refine ⟨_, rfl, ?_⟩
  rw [mem_macLoop]
  exact ⟨fun ⟨j, h1, h2, f, hf, e⟩ => ⟨j, f, h1, h2, hf, e⟩, fun ⟨j, f, h1, h2, hf, e⟩ => ⟨j, h1, h2, f, hf, e⟩⟩

theorem macos11_x86_64_tags (major minor : Nat) (h : 11 ≤ major) (t : PTag) :
    ∃ l, compatibleTags ⟨.macos major minor, .x86_64⟩ = some l ∧
      (t ∈ l ↔ ∃ f, f ∈ Arch.x86_64.macFormats ∧
        ((∃ M, 11 ≤ M ∧ M ≤ major ∧ t = .macosx M 0 f) ∨ (∃ j, 4 ≤ j ∧ j ≤ 16 ∧ t = .macosx 10 j f))) := by
  have h10 : (major == 10) = false := beq_eq_false_iff_ne.2 (by omega)
  refine ⟨_, by simp only [compatibleTags, h10, Bool.false_eq_true, if_false, ge_iff_le, h, if_true]; rfl, ?_⟩
  rw [List.mem_append, mem_macLoop, mem_macLoop]
  constructor
  · rintro (⟨M, h1, h2, f, hf, e⟩ | ⟨j, h1, h2, f, hf, e⟩)
    · exact ⟨f, hf, Or.inl ⟨M, h1, h2, e⟩⟩
    · exact ⟨f, hf, Or.inr ⟨j, h1, h2, e⟩⟩
  · rintro ⟨f, hf, (⟨M, h1, h2, e⟩ | ⟨j, h1, h2, e⟩)⟩
    · exact Or.inl ⟨M, h1, h2, f, hf, e⟩
    · exact Or.inr ⟨j, h1, h2, f, hf, e⟩

theorem windows_tags :
    compatibleTags ⟨.windows, .x86⟩ = some [.win "win32"] ∧
    compatibleTags ⟨.windows, .x86_64⟩ = some [.win "win_amd64"] ∧
    compatibleTags ⟨.windows, .aarch64⟩ = some [.win "win_arm64"] := ⟨rfl, rfl, rfl⟩

example : (compatibleTags ⟨.manylinux 2 18, .aarch64⟩).map (·.map PTag.str) =
    some ["manylinux_2_18_aarch64", "manylinux_2_17_aarch64", "manylinux2014_aarch64", "linux_aarch64"] := by decide +kernel

end C09
end DepLogic
