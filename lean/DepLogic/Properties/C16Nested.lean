import DepLogic.Properties.C16
import DepLogic.Properties.C09
/-
  C16, last clause — whenever `compare` answers LOWER_OR_EQUAL / HIGHER for two specs with platforms, the platform tag
  sets are nested accordingly, for every pair of platforms of the model, under `SameLine` (10.16 is the last macOS 10.x).
  Outside it the claim is false of the code (`nested_needs_sameLine`).  `platCompare` is read through `platCompare_view`,
  the tag sets through C09's descriptions, each monotone in the release (`nested_of_tags`).
-/
namespace DepLogic
namespace C16

/-- the hypothesis of the nestedness theorems: both releases on one glibc / musl major, an Intel macOS 10 target with a
    minor of at most 16 -/
def SameLine (p q : Platform) : Prop :=
  match p.os, q.os with
  | .manylinux a _, .manylinux b _ => a = b
  | .musllinux a _, .musllinux b _ => a = b
  | .macos a m, .macos _ _ => p.arch = .x86_64 → a = 10 → m ≤ 16
  | _, _ => True

/-- `cp`, `cq` have the shape of C09's tag-set theorems -/
theorem nested_of_tags {p q : Platform} {P Q : PTag → Prop} {lp lq : List PTag}
    (hp : compatibleTags p = some lp) (hq : compatibleTags q = some lq)
    (cp : ∀ t, ∃ l, compatibleTags p = some l ∧ (t ∈ l ↔ P t))
    (cq : ∀ t, ∃ l, compatibleTags q = some l ∧ (t ∈ l ↔ Q t))
    (hPQ : ∀ t, P t → Q t) : ∀ t ∈ lp, t ∈ lq := by
  intro t ht
  obtain ⟨l, e, hl⟩ := cp t
  obtain ⟨l', e', hl'⟩ := cq t
  rw [hp] at e; cases e
  rw [hq] at e'; cases e'
  exact hl'.2 (hPQ t (hl.1 ht))

/-- every case is monotonicity of a tag-set description of C09 in the release -/
theorem platCompare_nested (p q : Platform) (lp lq : List PTag)
    (hp : compatibleTags p = some lp) (hq : compatibleTags q = some lq) (hl : SameLine p q)
    (h : platCompare p q = .lowerOrEqual) : ∀ t ∈ lp, t ∈ lq := by
  obtain ⟨po, pa⟩ := p
  obtain ⟨qo, qa⟩ := q
  rcases platCompare_view po qo pa qa with ⟨e, _⟩ | ⟨mk, hmk, a, m, b, n, rfl, rfl, rfl⟩ | ⟨rfl, rfl, _⟩
  · rw [e] at h; cases h
  · rw [platCompare_numbered hmk] at h
    have hord : a < b ∨ a = b ∧ m ≤ n := Decidable.by_contra fun c => by rw [if_neg c] at h; cases h
    cases hmk
    · -- manylinux, one glibc major
      have hab : a = b := hl
      subst hab
      have hmn : m ≤ n := by omega
      exact nested_of_tags hp hq (C09.manylinux_tags a m pa) (C09.manylinux_tags a n pa)
        fun _ => Or.imp_right fun ⟨f, e, K, k1, k2, k3⟩ => ⟨f, e, K, k1, Nat.le_trans k2 hmn, k3⟩
    · -- musllinux, one musl major
      have hab : a = b := hl
      subst hab
      have hmn : m ≤ n := by omega
      exact nested_of_tags hp hq (C09.musllinux_tags a m pa) (C09.musllinux_tags a n pa)
        fun _ => Or.imp_right fun ⟨K, k1, k2, k3⟩ => ⟨K, k1, Nat.le_trans k2 hmn, k3⟩
    · -- macOS: only Apple silicon and Intel have tags at all
      have hline : pa = .x86_64 → a = 10 → m ≤ 16 := hl
      have hab : a ≤ b := by omega
      cases pa <;> try (cases hp; done)
      · exact nested_of_tags hp hq (C09.macos_arm64_tags a m) (C09.macos_arm64_tags b n)
          fun _ => Or.imp_left fun ⟨M, k1, k2, k3⟩ => ⟨M, k1, Nat.le_trans k2 hab, k3⟩
      · -- Intel: 10.x lists its minors; 11 and later the majors down to 11 and then all of 10.4 … 10.16
        by_cases ha10 : a = 10
        · subst ha10
          have hm16 := hline rfl rfl
          by_cases hb10 : b = 10
          · subst hb10
            have hmn : m ≤ n := by omega
            exact nested_of_tags hp hq (C09.macos10_x86_64_tags m) (C09.macos10_x86_64_tags n)
              fun _ ⟨j, f, k1, k2, k3⟩ => ⟨j, f, k1, Nat.le_trans k2 hmn, k3⟩
          · exact nested_of_tags hp hq (C09.macos10_x86_64_tags m) (C09.macos11_x86_64_tags b n (by omega))
              fun _ ⟨j, f, k1, k2, hf, k3⟩ => ⟨f, hf, Or.inr ⟨j, k1, Nat.le_trans k2 hm16, k3⟩⟩
        · by_cases ha11 : 11 ≤ a
          · exact nested_of_tags hp hq (C09.macos11_x86_64_tags a m ha11) (C09.macos11_x86_64_tags b n (by omega))
              fun _ ⟨f, hf, k⟩ => ⟨f, hf, k.imp_left fun ⟨M, k1, k2, k3⟩ => ⟨M, k1, Nat.le_trans k2 hab, k3⟩⟩
          · -- no tags below 10
            simp only [compatibleTags, beq_eq_false_iff_ne.2 ha10, Bool.false_eq_true, if_false, ge_iff_le, ha11] at hp
            cases hp
  · rw [hp] at hq; cases hq
    exact fun t ht => ht

/-- the manylinux instance, with `m1 ≤ m2` in place of the answer of `compare`; `hf` and `h1` are not used -/
theorem manylinux_nested (major m1 m2 : Nat) (arch : Arch) (f : Nat) (hf : arch.minManylinuxMinor = some f)
    (h1 : f ≤ m1 + 1) (h12 : m1 ≤ m2) (l1 l2 : List PTag)
    (e1 : compatibleTags ⟨.manylinux major m1, arch⟩ = some l1)
    (e2 : compatibleTags ⟨.manylinux major m2, arch⟩ = some l2) : ∀ t ∈ l1, t ∈ l2 :=
  platCompare_nested _ _ l1 l2 e1 e2 rfl (by rw [platCompare_numbered .manylinux, if_pos (Or.inr ⟨rfl, h12⟩)])

theorem platCompare_nested_higher (p q : Platform) (lp lq : List PTag)
    (hp : compatibleTags p = some lp) (hq : compatibleTags q = some lq) (hl : SameLine q p)
    (h : platCompare p q = .higher) : ∀ t ∈ lq, t ∈ lp :=
  platCompare_nested q p lq lp hq hp hl ((platCompare_swap p q).2 h)

theorem compare_nested (a b : EnvSpec) (p q : Platform) (lp lq : List PTag)
    (ha : a.platform = some p) (hb : b.platform = some q)
    (hp : compatibleTags p = some lp) (hq : compatibleTags q = some lq)
    (hne : a.beq b = false) (hl : SameLine p q) (hl' : SameLine q p) :
    (compare a b = .lowerOrEqual → ∀ t ∈ lp, t ∈ lq) ∧ (compare a b = .higher → ∀ t ∈ lq, t ∈ lp) := by
  fun_cases compare a b
  case case4 p' q' _ _ _ hq' hp' =>
    cases ha.symm.trans hp'
    cases hb.symm.trans hq'
    exact ⟨platCompare_nested p q lp lq hp hq hl, platCompare_nested_higher p q lp lq hp hq hl'⟩
  case case1 h => rw [hne] at h; cases h
  case case5 h => exact (h p q ha hb).elim
  all_goals exact ⟨nofun, nofun⟩

/-- equal specs (`compare` answers LOWER_OR_EQUAL at once) have the same platform -/
theorem compare_nested_eq (a b : EnvSpec) (h : a.beq b = true) : a.platform = b.platform := by
  simp only [EnvSpec.beq, Bool.and_eq_true, decide_eq_true_eq] at h
  exact h.1.2

/-- the hypothesis is needed: across a glibc major the code answers LOWER_OR_EQUAL although the tag loops only walk
    one major (hypothetical releases, outside C09's families) -/
theorem nested_needs_sameLine :
    platCompare ⟨.manylinux 2 17, .x86_64⟩ ⟨.manylinux 3 0, .x86_64⟩ = .lowerOrEqual ∧
    ∃ lp lq, compatibleTags ⟨.manylinux 2 17, .x86_64⟩ = some lp ∧ compatibleTags ⟨.manylinux 3 0, .x86_64⟩ = some lq ∧
      PTag.manylinux 2 17 .x86_64 ∈ lp ∧ PTag.manylinux 2 17 .x86_64 ∉ lq := by
  refine ⟨by decide, _, _, rfl, rfl, by decide, by decide⟩

/-- non-vacuity: the hypotheses hold for real targets -/
example : SameLine ⟨.macos 10 15, .x86_64⟩ ⟨.macos 11 0, .x86_64⟩ ∧
    platCompare ⟨.macos 10 15, .x86_64⟩ ⟨.macos 11 0, .x86_64⟩ = .lowerOrEqual := by
  refine ⟨?_, by decide⟩
  intro _ _; decide

end C16
end DepLogic
