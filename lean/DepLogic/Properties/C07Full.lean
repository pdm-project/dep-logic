import DepLogic.Properties.C07Nested
import DepLogic.Properties.C07
/-
  C07, the whole text level — every model marker with non-empty child lists (every marker in normal form is one) is a
  unit sequence: `toSeq`; its `__str__` is that sequence's text and its `items` that sequence's token list
  (`toSeq_spec`: `Renders`, built from atoms by `join` and `paren`; the three ways of joining children are one,
  `joinOpt`), hence `text_roundtrip_printable`: the model of packaging's `_parse_full_marker` reads `str(m)`, character by
  character, as exactly `items m` — the list `C07.reparse_sound` starts from.  Hypotheses: `Printable m` (C07) and
  `NamesOk m`: every name is one of packaging's environment variables.
-/
namespace DepLogic
namespace C07
open Quote MText M

def TL.append : TL → TL → TL
  | .nil, t => t
  | .cons b u tl, t => .cons b u (tl.append t)

theorem TL.append_spec : ∀ (a b : TL), (a.append b).text = a.text ++ b.text ∧
    (a.append b).items = a.items ++ b.items ∧ (a.Ok → b.Ok → (a.append b).Ok)
  | .nil, _ => ⟨rfl, rfl, fun _ h => h⟩
  | .cons o u tl, b => by
    obtain ⟨h1, h2, h3⟩ := TL.append_spec tl b
    exact ⟨by simp [TL.append, TL.text, h1], by simp [TL.append, TL.items, h2], fun ha hb => ⟨ha.1, h3 ha.2 hb⟩⟩

abbrev Seq := U × TL

def Seq.join (isAnd : Bool) (x y : Seq) : Seq := (x.1, x.2.append (.cons isAnd y.1 y.2))

def Seq.text (s : Seq) : List Char := s.1.text ++ s.2.text
def Seq.items (s : Seq) : List PItem := s.1.item :: s.2.items
def Seq.Ok (s : Seq) : Prop := s.1.Ok ∧ s.2.Ok

def Seq.paren (s : Seq) : Seq := (.group s.1 s.2, .nil)

structure Renders (s : Seq) (txt : List Char) (its : List PItem) (P : Prop) : Prop where
  text : txt = s.text
  items : its = s.items
  ok : P → s.Ok

theorem Renders.atom (a : Atom) : Renders (.atom a, .nil) (atomStrL a) [atomItem a] (a.name.toList ∈ canonNames) :=
  ⟨by simp [Seq.text, U.text, TL.text], rfl, fun h => ⟨h, trivial⟩⟩

section
variable {s y : Seq} {txt ty : List Char} {its iy : List PItem} {P Q : Prop} (h : Renders s txt its P)
include h

theorem Renders.mono (hq : Q → P) : Renders s txt its Q :=
  ⟨h.text, h.items, fun x => h.ok (hq x)⟩

theorem Renders.join (b : Bool) (hy : Renders y ty iy Q) :
    Renders (Seq.join b s y) (txt ++ opText b ++ ty) (its ++ opItem b :: iy) (P ∧ Q) := by
  obtain ⟨h1, h2, h3⟩ := TL.append_spec s.2 (.cons b y.1 y.2)
  refine ⟨?_, ?_, fun hp => ⟨(h.ok hp.1).1, h3 (h.ok hp.1).2 (hy.ok hp.2)⟩⟩
  · rw [h.text, hy.text]; simp [Seq.join, Seq.text, h1, TL.text]
  · rw [h.items, hy.items]; simp [Seq.join, Seq.items, h2, TL.items]

theorem Renders.paren : Renders s.paren ('(' :: (txt ++ [')'])) [.group its] P :=
  ⟨by rw [h.text]; simp [Seq.paren, Seq.text, U.text, TL.text], by rw [h.items]; rfl, fun hp => ⟨h.ok hp, trivial⟩⟩

end

/-- the grouped markers.  The spec written into the atoms is not that of `op`: neither the text nor the tokens look at it -/
def groupSeq (isAnd : Bool) (n : String) (op : MOp) : List String → Option Seq
  | [] => none
  | [v] => some (.atom ⟨n, op, v, false, .gen ⟨.eq, v⟩⟩, .nil)
  | v :: vs => (groupSeq isAnd n op vs).map fun r => Seq.join isAnd (.atom ⟨n, op, v, false, .gen ⟨.eq, v⟩⟩, .nil) r

mutual
def toSeq : M → Option Seq
  | .any => none
  | .empty => none
  | .expr a => some (.atom a, .nil)
  | .eqU n vs => groupSeq false n .eq vs
  | .neM n vs => groupSeq true n .ne vs
  | .multi ms => multiSeq ms
  | .union ms => unionSeq ms
def multiSeq : List M → Option Seq
  | [] => none
  | m :: ms =>
    let x := match m with
      | .expr _ | .multi _ => toSeq m
      | _ => (toSeq m).map Seq.paren
    match ms with
    | [] => x
    | _ :: _ => x.bind fun a => (multiSeq ms).map fun b => Seq.join true a b
def unionSeq : List M → Option Seq
  | [] => none
  | m :: ms =>
    match ms with
    | [] => toSeq m
    | _ :: _ => (toSeq m).bind fun a => (unionSeq ms).map fun b => Seq.join false a b
end

def opStr (isAnd : Bool) : String := if isAnd then " and " else " or "

theorem opStr_toList (b : Bool) : (opStr b).toList = opText b := by cases b <;> decide +kernel

def joinOpt (b : Bool) : List (Option Seq) → Option Seq
  | [] => none
  | [x] => x
  | x :: xs => x.bind fun a => (joinOpt b xs).map fun r => Seq.join b a r

theorem joinOpt_cons2 (b : Bool) (x y : Option Seq) (ys : List (Option Seq)) :
    joinOpt b (x :: y :: ys) = x.bind fun a => (joinOpt b (y :: ys)).map fun r => Seq.join b a r := rfl

theorem joinOpt_spec {ι : Type} (b : Bool) (sq : ι → Option Seq) (st : ι → String) (it : ι → List PItem) (P : ι → Prop) :
    ∀ (l : List ι), (∀ i ∈ l, ∀ s, sq i = some s → Renders s (st i).toList (it i) (P i)) →
    ∀ s, joinOpt b (l.map sq) = some s →
      Renders s ((opStr b).intercalate (l.map st)).toList (joinItems (opItem b) (l.map it)) (∀ i ∈ l, P i)
  | [], _, s, h => by simp [joinOpt] at h
  | [i], hi, s, h => by
    obtain ⟨h1, h2, h3⟩ := hi i List.mem_cons_self s h
    exact ⟨by rw [List.map, List.map, String.intercalate_singleton, h1], h2, fun hp => h3 (hp i List.mem_cons_self)⟩
  | i :: j :: l, hi, s, h => by
    simp only [List.map_cons, joinOpt_cons2, Option.bind_eq_some_iff, Option.map_eq_some_iff] at h
    obtain ⟨a, ha, r, hr, rfl⟩ := h
    obtain ⟨h0, ht⟩ := List.forall_mem_cons.1 hi
    have J := (h0 a ha).join b (joinOpt_spec b sq st it P (j :: l) ht r hr)
    refine ⟨?_, ?_, fun hp => J.ok (List.forall_mem_cons.1 hp)⟩
    · rw [List.map_cons, List.map_cons, String.intercalate_cons_cons, String.toList_append, String.toList_append,
        opStr_toList, ← List.map_cons]
      exact J.text
    · rw [List.map_cons, List.map_cons, joinItems_two, ← List.map_cons]; exact J.items

theorem joinOpt_isSome (b : Bool) : ∀ l : List (Option Seq), (joinOpt b l).isSome = (!l.isEmpty && l.all (·.isSome))
  | [] => rfl
  | [x] => by simp [joinOpt]
  | x :: y :: l => by
    rw [joinOpt_cons2]
    cases x <;> simp [joinOpt_isSome b (y :: l)]

def childSeq (m : M) : Option Seq := if isConj m then toSeq m else (toSeq m).map Seq.paren
def childStr (m : M) : String := if isConj m then m.str else "(" ++ m.str ++ ")"

theorem strMultiChildren_eq : ∀ (ms : List M), strMultiChildren ms = ms.map childStr
  | [] => rfl
  | m :: ms => by rw [List.map_cons, ← strMultiChildren_eq ms]; cases m <;> rfl

theorem strList_eq : ∀ (ms : List M), strList ms = ms.map M.str
  | [] => rfl
  | m :: ms => by simp [strList, strList_eq ms]

theorem multiSeq_eq : ∀ (ms : List M), multiSeq ms = joinOpt true (ms.map childSeq)
  | [] => rfl
  | [m] => by cases m <;> rfl
  | m :: m2 :: ms => by
    rw [List.map_cons, List.map_cons, joinOpt_cons2, ← List.map_cons, ← multiSeq_eq (m2 :: ms)]
    cases m <;> rfl

theorem unionSeq_eq : ∀ (ms : List M), unionSeq ms = joinOpt false (ms.map toSeq)
  | [] => rfl
  | [m] => by rw [unionSeq]; rfl
  | m :: m2 :: ms => by rw [unionSeq, unionSeq_eq (m2 :: ms)]; rfl

theorem groupSeq_eq (b : Bool) (n : String) (op : MOp) : ∀ (vs : List String),
    groupSeq b n op vs = joinOpt b (vs.map fun v => some (.atom ⟨n, op, v, false, .gen ⟨.eq, v⟩⟩, .nil))
  | [] => rfl
  | [v] => rfl
  | v :: w :: vs => by
    show (groupSeq b n op (w :: vs)).map _ = _
    rw [groupSeq_eq b n op (w :: vs)]; rfl

mutual
def NamesOk : M → Prop
  | .any => True
  | .empty => True
  | .expr a => a.name.toList ∈ canonNames
  | .eqU n _ => n.toList ∈ canonNames
  | .neM n _ => n.toList ∈ canonNames
  | .multi ms => NamesOkL ms
  | .union ms => NamesOkL ms
def NamesOkL : List M → Prop
  | [] => True
  | m :: ms => NamesOk m ∧ NamesOkL ms
end

theorem namesOkL_iff (ms : List M) : NamesOkL ms ↔ ∀ c ∈ ms, NamesOk c := by
  induction ms with
  | nil => simp [NamesOkL]
  | cons m ms ih => simp [NamesOkL, ih]

theorem groupSeq_spec (isAnd : Bool) (n : String) (op : MOp) (opS : String)
    (hop : opS.toList = ' ' :: op.str.toList ++ [' '])
    (vs : List String) (s : Seq) (h : groupSeq isAnd n op vs = some s) :
    Renders s ((opStr isAnd).intercalate (vs.map fun v => n ++ opS ++ quoteS v)).toList
      (joinItems (opItem isAnd) (vs.map fun v => [.atom true n op.str v])) (n.toList ∈ canonNames) := by
  rw [groupSeq_eq] at h
  refine (joinOpt_spec isAnd _ (fun v => n ++ opS ++ quoteS v) (fun v => [.atom true n op.str v])
    (fun _ => n.toList ∈ canonNames) vs ?_ s h).mono fun hn _ _ => hn
  rintro v _ s ⟨⟩
  have A := Renders.atom ⟨n, op, v, false, .gen ⟨.eq, v⟩⟩
  refine ⟨Eq.trans ?_ A.text, A.items, A.ok⟩
  simp [atomStrL, quoteS, String.toList_append, hop]

theorem child_spec (m : M) (ih : ∀ s, toSeq m = some s → Renders s m.str.toList m.items (NamesOk m)) :
    ∀ x, childSeq m = some x → Renders x (childStr m).toList (childItems m) (NamesOk m) := by
  unfold childStr childItems
  fun_cases childSeq m
  · next h => rw [if_pos h, if_pos h]; exact ih
  · next h =>
    intro x hx
    obtain ⟨y, hy, rfl⟩ := Option.map_eq_some_iff.1 hx
    rw [if_neg h, if_neg h]
    simpa [String.toList_append] using (ih y hy).paren

theorem childSeq_isSome (m : M) : (childSeq m).isSome = (toSeq m).isSome := by
  unfold childSeq; split <;> simp

mutual
theorem toSeq_ok : ∀ (m : M), (Printable m → (toSeq m).isSome = true) ∧
    ∀ (s : Seq), toSeq m = some s → Renders s m.str.toList m.items (NamesOk m)
  | .any => ⟨nofun, nofun⟩
  | .empty => ⟨nofun, nofun⟩
  | .expr a => ⟨fun _ => rfl, fun s h => by
    cases h
    rw [M.str, atomStr_toList]
    exact Renders.atom a⟩
  | .eqU n vs => ⟨fun h => by rw [toSeq, groupSeq_eq, joinOpt_isSome]; simpa [Printable] using h,
    groupSeq_spec false n .eq " == " (by decide +kernel) vs⟩
  | .neM n vs => ⟨fun h => by rw [toSeq, groupSeq_eq, joinOpt_isSome]; simpa [Printable] using h,
    groupSeq_spec true n .ne " != " (by decide +kernel) vs⟩
  | .multi ms => ⟨fun h => by
      rw [toSeq, multiSeq_eq, joinOpt_isSome]
      simpa [childSeq_isSome, h.1] using fun c hc => (toSeq_okL ms c hc).1 ((printableL_iff ms).1 h.2 c hc),
    fun s h => by
      rw [toSeq, multiSeq_eq] at h
      rw [M.str, M.items, strMultiChildren_eq, itemsMultiChildren_eq, NamesOk, namesOkL_iff]
      exact joinOpt_spec true childSeq childStr childItems NamesOk ms (fun c hc => child_spec c (toSeq_okL ms c hc).2) s h⟩
  | .union ms => ⟨fun h => by
      rw [toSeq, unionSeq_eq, joinOpt_isSome]
      simpa [h.1] using fun c hc => (toSeq_okL ms c hc).1 ((printableL_iff ms).1 h.2 c hc),
    fun s h => by
      rw [toSeq, unionSeq_eq] at h
      rw [M.str, M.items, strList_eq, itemsList_eq, NamesOk, namesOkL_iff]
      exact joinOpt_spec false toSeq M.str M.items NamesOk ms (fun c hc => (toSeq_okL ms c hc).2) s h⟩
theorem toSeq_okL : ∀ (ms : List M), ∀ c ∈ ms, (Printable c → (toSeq c).isSome = true) ∧
    ∀ (s : Seq), toSeq c = some s → Renders s c.str.toList c.items (NamesOk c)
  | [] => nofun
  | m :: ms => List.forall_mem_cons.2 ⟨toSeq_ok m, toSeq_okL ms⟩
end

theorem toSeq_isSome (m : M) (h : Printable m) : ∃ s, toSeq m = some s := Option.isSome_iff_exists.1 ((toSeq_ok m).1 h)

theorem toSeq_spec : ∀ (m : M) (s : Seq), toSeq m = some s →
    m.str.toList = s.text ∧ m.items = s.items ∧ (NamesOk m → s.Ok) :=
  fun m s h => let R := (toSeq_ok m).2 s h; ⟨R.text, R.items, R.ok⟩

theorem unionSeq_spec : ∀ (ms : List M) (s : Seq), unionSeq ms = some s →
    (" or ".intercalate (strList ms)).toList = s.text ∧
    joinItems .or_ (itemsList ms) = s.items ∧ (NamesOkL ms → s.Ok) :=
  fun ms => toSeq_spec (.union ms)

theorem multiSeq_isSome : ∀ (ms : List M), ms ≠ [] → PrintableL ms → ∃ s, multiSeq ms = some s :=
  fun ms h0 hp => toSeq_isSome (.multi ms) ⟨h0, hp⟩

theorem unionSeq_isSome : ∀ (ms : List M), ms ≠ [] → PrintableL ms → ∃ s, unionSeq ms = some s :=
  fun ms h0 hp => toSeq_isSome (.union ms) ⟨h0, hp⟩

/-- **the text level of C07, in full**.  `Printable`: every normal form; the parser: the model of packaging's
    `_parse_full_marker` (`Marker.__init__` then normalises the values of `extra`, which is not modelled) -/
theorem text_roundtrip_printable (m : M) (hp : Printable m) (hn : NamesOk m) :
    readFullMarker m.str.toList = some m.items := by
  obtain ⟨s, hs⟩ := toSeq_isSome m hp
  obtain ⟨h1, h2, h3⟩ := toSeq_spec m s hs
  rw [h1, h2]
  exact nested_text s.1 s.2 (h3 hn).1 (h3 hn).2

theorem junction_text (isAnd : Bool) (a0 : Atom) (as : List Atom)
    (hn : ∀ a ∈ a0 :: as, a.name.toList ∈ canonNames) :
    let m : M := if isAnd then .multi ((a0 :: as).map .expr) else .union ((a0 :: as).map .expr)
    readFullMarker m.str.toList = some m.items := by
  have hp : PrintableL ((a0 :: as).map .expr) := (printableL_iff _).2 (List.forall_mem_map.2 fun _ _ => trivial)
  have hk : NamesOkL ((a0 :: as).map .expr) := (namesOkL_iff _).2 (List.forall_mem_map.2 hn)
  cases isAnd <;> exact text_roundtrip_printable _ ⟨by simp, hp⟩ hk

/-- **C07 end to end in the model**: `str(m)`, read by the model of packaging's parser and, if `_build_markers` accepts
    the tokens (`hb`), rebuilt by it with all its merging, evaluates like `m` -/
theorem str_reparse_final (env : Env) (he : EnvTotal env) (m m' : M) (hp : Printable m) (hn : NamesOk m)
    (hg : GAll (Good env) m) (k : Nat) (hk : C12.depth m ≤ k) (its : List PItem)
    (hr : readFullMarker m.str.toList = some its) (hb : build (k + 1) (.group its) = some m') :
    sem env m' = sem env m := by
  rw [text_roundtrip_printable m hp hn] at hr
  cases hr
  exact reparse_sound_final env he m m' hp hg k hk hb

/-- non-vacuity: a parenthesised group, a literal-on-the-left atom and grouped atoms -/
example : let m : M := .multi [.expr ⟨"sys_platform", .in_, "lin", true, .gen ⟨.contains, "lin"⟩⟩,
                                .union [.eqU "os_name" ["a", "b"], .neM "platform_machine" ["x"]]]
    Printable m ∧ NamesOk m := by
  refine ⟨by simp [Printable, PrintableL], ?_⟩
  simp only [NamesOk, NamesOkL, canonNames, varNames, List.mem_cons, true_or, or_true, and_true]

end C07
end DepLogic
