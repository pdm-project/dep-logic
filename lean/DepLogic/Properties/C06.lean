import DepLogic.Proofs.CutAlgebra
import DepLogic.Proofs.RenderLemmas
import DepLogic.Proofs.FromClause
/-
  C06 — specifier text round trip (clause level).

  `RoundTrips s`: the clause structure `str(s)` denotes re-parses (through `_from_pkg_specifier`,
  `from_specifierset`, the `||` fold) to an object `==` to `s`, both ways round.  `roundtrips`: every
  canonical object does (the `~=` form by `compat_render`, `!=X.*` by `wild_render`, the `||`-joined
  form by uniqueness of canonical forms over cuts).
  The property as stated is false of the code for `[X.Y, (X+1).0.postN)`, rendered `~=X.Y`
  (`postrelease_counterexample`; the repository's own test-suite expects this rendering: known
  finding D4a), so the theorems assume `NoD4a`, and that a cached clause parses back to the object
  that carries it (`TextOk`, `TextOkU`).  Both hold of everything built from parsed final releases:
  `Nice`, `nice_roundtrips`, `reach_roundtrips` in Proofs/TextInv.lean.
  Outside these theorems: characters <-> clauses (packaging's `str(Version)` / `Specifier`
  parsing, modelled in Model/SpecParse.lean).
-/
namespace DepLogic
namespace C06
open LinPre Spec

def RoundTrips (s : Spec Ver) : Prop :=
  ∃ s', parseAlts (s.str).toAlts = some s' ∧ s'.beq s = true ∧ s.beq s' = true

def TextOk (r : Range Ver) : Prop :=
  ∀ c, r.text = some c → ∃ x, fromClause c = some (.range x) ∧ x.beq r = true

/-- the `~=` heuristic is only applied with a post-free upper bound (excludes known finding D4a) -/
def NoD4a (r : Range Ver) : Prop :=
  r.text = none → ∀ mn mx, r.min = some mn → r.max = some mx → compatForm mn mx = true → mx.post = none

def TextOkU (rs : List (Range Ver)) (t : Option (Clause Ver)) : Prop :=
  ∀ c, t = some c → ∃ ys yt, fromClause c = some (.union ys yt) ∧ (Spec.union ys yt).beq (.union rs t) = true

theorem empty_roundtrip : RoundTrips .empty := ⟨.empty, rfl, rfl, rfl⟩
theorem any_roundtrip : RoundTrips .any := ⟨.range {}, rfl, rfl, rfl⟩

theorem RoundTrips.of_beq {s s' : Spec Ver} (hp : parseAlts (s.str).toAlts = some s') (hb : s'.beq s = true) :
    RoundTrips s := ⟨s', hp, hb, by rw [Spec.beq_symm]; exact hb⟩

theorem fss_single (c : Clause Ver) (r : Range Ver) (h : fromClause c = some (.range r)) :
    fromSpecifierSet [c] = some (.range r) := by
  rw [fromSpecifierSet_one, h, Option.map_some, and_any_range]

theorem fss_two (c d : Clause Ver) (r q : Range Ver) (h : fromClause c = some (.range r))
    (h' : fromClause d = some (.range q)) :
    fromSpecifierSet [c, d] = some ((Spec.range r).and (.range q)) := by
  rw [fromSpecifierSet_eq, fssFrom_cons, h, Option.bind_some, and_any_range, fssFrom_cons, h', Option.bind_some,
    fssFrom_nil]

theorem fss_single_union (c : Clause Ver) (ys : List (Range Ver)) (yt : Option (Clause Ver))
    (h : fromClause c = some (.union ys yt)) : fromSpecifierSet [c] = some (.union ys yt) := by
  rw [fromSpecifierSet_one, h]; rfl

theorem parse_one_alt (cs : List (Clause Ver)) :
    parseAlts (SText.toAlts (.alts [cs])) = fromSpecifierSet cs := by
  simp [SText.toAlts, parseAlts, parseAlt]

theorem and_halflines (a b : Ver) (i j : Bool) (t t' : Option (Clause Ver)) (h : lt a b) :
    (⟨some a, none, i, false, t⟩ : Range Ver).and ⟨none, some b, false, j, t'⟩ = some ⟨some a, some b, i, j, none⟩ := by
  have h1 : ¬ le b a := h
  simp [Range.and, Range.isSuperset, Range.allowsLower, Range.allowsHigher, Range.isStrictlyLower, h1, le_of_lt h]

/-- only the `~=` form needs its upper bound post-free (`hd`) -/
theorem range_roundtrip_fresh (r : Range Ver) (h : r.WF) (ht : r.text = none)
    (hd : ∀ a b, r.min = some a → r.max = some b → compatForm a b = true →
      r.strClauses = [⟨.compat, a, false⟩] → b.post = none) : RoundTrips (.range r) := by
  have rf := @LinPre.le_refl Ver _
  have hf := strClauses_forms r ht
  rcases r with ⟨mn, mx, i, j, t⟩
  cases ht
  obtain ⟨hctor, hwf⟩ := h
  -- the constructor guard: on an unbounded side the flag is `false` (`cases gi rfl`, `cases gj rfl` below)
  obtain ⟨gi, gj⟩ := (Range.ctorOk_iff _).1 hctor
  suffices h : ∃ s', fromSpecifierSet (Range.strClauses ⟨mn, mx, i, j, none⟩) = some s' ∧
      s'.beq (.range ⟨mn, mx, i, j, none⟩) = true by
    obtain ⟨s', hp, hb⟩ := h
    exact .of_beq (by simpa only [Spec.str, parse_one_alt] using hp) hb
  cases mn with
  | none =>
    cases gi rfl
    cases mx with
    | none =>
      cases gj rfl
      rw [hf]; exact ⟨.range {}, rfl, rfl⟩
    | some b =>
      rw [hf]
      exact ⟨.range ⟨none, some b, false, j, some ⟨if j then .le else .lt, b, false⟩⟩, fss_single _ _ (by cases j <;> rfl),
        Range.beq_refl ⟨none, some b, false, j, none⟩⟩
  | some a =>
    cases mx with
    | none =>
      cases gj rfl
      rw [hf]
      exact ⟨.range ⟨some a, none, i, false, some ⟨if i then .ge else .gt, a, false⟩⟩, fss_single _ _ (by cases i <;> rfl),
        Range.beq_refl ⟨some a, none, i, false, none⟩⟩
    | some b =>
      simp only at hf hwf
      rcases hf with ⟨hab, hstr⟩ | ⟨hab, hi, hj, hcf, hstr⟩ | ⟨hab, hstr⟩
      · -- `==A`: a point, both ends inclusive
        obtain ⟨rfl, rfl⟩ : i = true ∧ j = true := hwf.elim (fun hlt => absurd hab.2 hlt) (·.2)
        rw [hstr]
        refine ⟨.range ⟨some a, some a, true, true, some ⟨.eq, a, false⟩⟩, fss_single _ _ rfl, ?_⟩
        simp [Spec.beq, Range.beq, rf, hab.1, hab.2]
      · -- `~=A`: the upper bound is a spelling of the next series
        subst hi; subst hj
        obtain ⟨nx, hnx, hev⟩ := compat_render a b hcf (hd a b rfl rfl hcf hstr)
        rw [hstr]
        refine ⟨.range ⟨some a, some nx, true, false, some ⟨.compat, a, false⟩⟩,
          fss_single _ _ (by simp [fromClause, hnx]), ?_⟩
        simp [Spec.beq, Range.beq, rf, hev.1, hev.2]
      · -- two comparisons: their ranges intersect in this very range
        have hlt : lt a b := hwf.elim id (fun h => absurd h.1 hab)
        rw [hstr, twoClauses, fss_two _ _ ⟨some a, none, i, false, some ⟨if i then .ge else .gt, a, false⟩⟩
          ⟨none, some b, false, j, some ⟨if j then .le else .lt, b, false⟩⟩ (by cases i <;> rfl) (by cases j <;> rfl)]
        simp only [Spec.and, and_halflines _ _ _ _ _ _ hlt]
        exact ⟨_, rfl, Spec.beq_refl _⟩

theorem range_roundtrip_plain_partial (r : Range Ver) (h : r.WF) (ht : r.text = none)
    (hplain : ∀ c ∈ r.strClauses, c.op ≠ .compat) : RoundTrips (.range r) :=
  range_roundtrip_fresh r h ht fun a _ _ _ _ hstr => absurd rfl (hplain ⟨.compat, a, false⟩ (by rw [hstr]; simp))

/-- the defect: `[1.2, 2.0.post1)` renders as `~=1.2`, which re-parses to `[1.2, 2.0)` -/
def pr : Range Ver :=
  { min := some { release := [1, 2] }, max := some { release := [2, 0], post := some 1 }, incMin := true }

theorem postrelease_counterexample : Range.WF pr ∧ ¬ RoundTrips (.range pr) := by
  refine ⟨by decide, ?_⟩
  rintro ⟨s', h1, h2, _⟩
  have : parseAlts ((Spec.range pr).str).toAlts = some (.range
      { min := some { release := [1, 2] }, max := some { release := [2, 0] }, incMin := true, incMax := false,
        text := some { op := .compat, ver := { release := [1, 2] } } }) := by decide
  rw [this] at h1
  cases h1
  revert h2
  decide

theorem range_roundtrip (r : Range Ver) (h : r.WF) (ht : TextOk r) (hd : NoD4a r) : RoundTrips (.range r) := by
  cases htx : r.text with
  | some c =>
    obtain ⟨x, hx, hb⟩ := ht c htx
    refine .of_beq (s' := .range x) ?_ hb
    simp only [Spec.str, Range.strClauses, htx, parse_one_alt]
    exact fss_single c x hx
  | none => exact range_roundtrip_fresh r h htx fun a b hmin hmax hcf _ => hd htx a b hmin hmax hcf

/-- the `||` fold of `parse_version_specifier`, from any start `S0` -/
theorem fold_or (rs : List (Range Ver))
    (each : ∀ r ∈ rs, ∃ s, parseAlt (.clauses r.strClauses) = some s ∧ Canon s ∧ ∀ x n, s.memC x n ↔ r.memC x n) :
    ∀ S0 : Spec Ver, Canon S0 → ∃ S,
      (rs.map fun r => Alt.clauses r.strClauses).foldl
        (fun acc x => acc.bind fun s => (parseAlt x).bind fun t => s.or t) (some S0) = some S ∧ Canon S ∧
      ∀ x n, S.memC x n ↔ (S0.memC x n ∨ ∃ r ∈ rs, r.memC x n) := by
  induction rs with
  | nil => intro S0 h0; exact ⟨S0, rfl, h0, fun x n => by simp⟩
  | cons r0 rest ih =>
    intro S0 h0
    obtain ⟨s, hs, cs, ms⟩ := each r0 (by simp)
    obtain ⟨r, hr, cr, mr⟩ := or_memC S0 s h0 cs
    obtain ⟨S, hS, cS, mS⟩ := ih (fun b hb => each b (by simp [hb])) r cr
    refine ⟨S, ?_, cS, fun x n => ?_⟩
    · simp only [List.map_cons, List.foldl_cons, Option.bind_some, hs, hr]; exact hS
    · rw [mS, mr, ms, or_assoc]; simp only [List.mem_cons, exists_eq_or_imp]

theorem alts_roundtrip (rs : List (Range Ver)) (t : Option (Clause Ver)) (hc : Canon (.union rs t))
    (hr : ∀ r ∈ rs, TextOk r ∧ NoD4a r) :
    ∃ S, parseAlts (SText.toAlts (.alts (rs.map Range.strClauses))) = some S ∧ S.beq (.union rs t) = true ∧
      (Spec.union rs t).beq S = true := by
  -- every member range round-trips on its own
  have each : ∀ r ∈ rs, ∃ s, parseAlt (.clauses r.strClauses) = some s ∧ Canon s ∧ ∀ x n, s.memC x n ↔ r.memC x n := by
    intro r hrm
    obtain ⟨s, hs, hb, _⟩ := range_roundtrip r (hc.2.1 r hrm) (hr r hrm).1 (hr r hrm).2
    simp only [Spec.str, parse_one_alt] at hs
    refine ⟨s, hs, fromSpecifierSet_canon _ s hs, fun x n => ?_⟩
    rw [← memC_range]; exact memC_of_beq s (.range r) hb x n
  match rs, hc, each with
  | [], hc, _ => exact absurd hc.1 (by simp)
  | r0 :: rest, hc, each =>
    obtain ⟨s0, hs0, c0, m0⟩ := each r0 (by simp)
    obtain ⟨S, hS, cS, mS⟩ := fold_or rest (fun r hr => each r (by simp [hr])) s0 c0
    have hparse : parseAlts (SText.toAlts (.alts ((r0 :: rest).map Range.strClauses))) = some S := by
      simp only [SText.toAlts, List.map_cons, List.map_map, parseAlts, hs0]
      exact hS
    -- the result has the cuts of the union, and canonical forms are unique
    have hm : ∀ x n, S.memC x n ↔ (Spec.union (r0 :: rest) t).memC x n := fun x n => by
      rw [mS, m0, memC_union]; simp only [List.mem_cons, exists_eq_or_imp]
    have hb := canon_unique { release := [0] } _ _ cS hc hm
    exact ⟨S, hparse, hb, by rw [Spec.beq_symm]; exact hb⟩

theorem union_roundtrip (rs : List (Range Ver)) (t : Option (Clause Ver)) (hc : Canon (.union rs t))
    (hr : ∀ r ∈ rs, TextOk r ∧ NoD4a r) (hu : TextOkU rs t) : RoundTrips (.union rs t) := by
  have rf := @LinPre.le_refl Ver _
  cases hs : unionSimplified rs t with
  | none =>
    unfold RoundTrips
    simp only [Spec.str, hs]
    exact alts_roundtrip rs t hc hr
  | some c =>
    -- one clause `c`: whatever it parses to
    suffices h : ∃ ys yt, fromClause c = some (.union ys yt) ∧ (Spec.union ys yt).beq (.union rs t) = true by
      obtain ⟨ys, yt, hp, hb⟩ := h
      exact .of_beq (by simpa only [Spec.str, hs, parse_one_alt] using fss_single_union c ys yt hp) hb
    cases t with
    | some c' =>
      have : c = c' := by simp [unionSimplified] at hs; exact hs.symm
      subst this
      exact hu c rfl
    | none =>
      obtain ⟨left, right, lm, rm, rfl, hlmin, hrmax, hlmax, hrmin, hform⟩ := unionSimplified_forms rs c hs
      have hsep : sep left right := (List.pairwise_cons.1 hc.2.2).1 right (by simp)
      have hli := ((Range.ctorOk_iff _).1 (hc.2.1 left (by simp)).1).1 hlmin
      have hrj := ((Range.ctorOk_iff _).1 (hc.2.1 right (by simp)).1).2 hrmax
      rcases hform with ⟨heq, rfl⟩ | ⟨_, hlj, hri, hpl, hpr, hql, hqr, p, hp, rfl⟩
      · -- `!= lm`: the two ranges touch at `lm`, so both ends there are exclusive
        have hex : left.incMax = false ∧ right.incMin = false := by
          simp only [sep, hlmax, hrmin] at hsep
          exact hsep.elim (fun h => absurd heq.2 h) (·.2)
        refine ⟨_, _, rfl, ?_⟩
        simp [Spec.beq, Range.beq, hlmin, hrmax, hlmax, hrmin, hli, hrj, hex.1, hex.2, rf, heq.1, heq.2]
      · -- `!= p.*`: the bounds are `p.0` and the next series of `p`
        have post : ∀ v : Ver, v.isPostrelease = false → v.post = none := fun v h => by
          cases hv : v.post with
          | none => rfl
          | some _ => simp [Ver.isPostrelease, hv] at h
        obtain ⟨hleft, nx, hnx, hright⟩ := wild_render lm rm p hp
          (isFinal_of_not_pre lm hpl (post lm hql)) (isFinal_of_not_pre rm hpr (post rm hqr))
        refine ⟨_, _, by simp only [fromClause, hnx, Option.map_some]; rfl, ?_⟩
        simp [Spec.beq, Range.beq, hlmin, hrmax, hlmax, hrmin, hli, hrj, hlj, hri,
          hleft.1, hleft.2, hright.1, hright.2]

/-- **the property, for every canonical object** (cached texts right, no D4a rendering) -/
theorem roundtrips (s : Spec Ver) (hc : Canon s)
    (hr : ∀ r, (s = .range r ∨ ∃ rs t, s = .union rs t ∧ r ∈ rs) → TextOk r ∧ NoD4a r)
    (hu : ∀ rs t, s = .union rs t → TextOkU rs t) : RoundTrips s := by
  cases s with
  | empty => exact empty_roundtrip
  | any => exact any_roundtrip
  | range r => exact range_roundtrip r hc (hr r (Or.inl rfl)).1 (hr r (Or.inl rfl)).2
  | union rs t => exact union_roundtrip rs t hc (fun r hrm => hr r (Or.inr ⟨rs, t, rfl, hrm⟩)) (hu rs t rfl)

/-- non-vacuity: `>=1.2,<2.0` built by the operators (no cached text) renders `~=1.2` and round-trips -/
example : RoundTrips (.range { min := some { release := [1, 2] }, max := some { release := [2, 0] }, incMin := true }) :=
  range_roundtrip _ (by decide) (by intro c h; cases h) (by intro _ mn mx h1 h2 _; cases h2; rfl)

end C06
end DepLogic
