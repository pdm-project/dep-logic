import DepLogic.Model.Tags
import DepLogic.Properties.C05
import DepLogic.Properties.C04
/-
  C08 — wheel python/ABI compatibility = some Python in requires_python can load it.
  `evalPyCore_eq` regroups the branches of `_evaluate_python` into the rule "the gates pass, the tag pair denotes a
  version range `w`, and `w & requires_python` is not reported empty"; the other theorems read that rule (no false
  rejection / acceptance through C05, the score, `C16.evalPyCore_cut_iff` over cuts) or say what the range means
  (`wheelSpec_reads`, through C04's leaf theorem).
-/
namespace DepLogic
namespace C08
open Spec

/-- implementation / ABI gates of the statement -/
def gate (impl : Option Impl) (t : PyAbi) : Bool :=
  (match impl with | some i => t.impl == i.short || t.impl == "py" | none => true) &&
  (if t.abiImpl == "abi3" then
     t.impl == "cp" && (match impl with | none => true | some i => !i.gilDisabled)
   else
     t.abiImpl == "none" || abiGate impl t)

/-- what the ABI gate of the code means (the `fix:` for D28): the ABI tag is the python tag followed by flag characters
    that do not begin with a digit — `cp31` does not fit `cp310` — and, when the implementation is known,
    `t` occurs among the flags exactly for a free-threaded build -/
theorem abiGate_iff (impl : Option Impl) (t : PyAbi) :
    abiGate impl t = true ↔
      ∃ flags : List Char, t.abiImpl.toList = t.pyLower.toList ++ flags ∧
        (∀ c, flags.head? = some c → c.isDigit = false) ∧
        (∀ i, impl = some i → flags.contains 't' = i.gilDisabled) := by
  unfold abiGate abiFlags
  simp only [Bool.and_eq_true, Bool.not_eq_true', List.isPrefixOf_iff_prefix, and_assoc]
  constructor
  · rintro ⟨⟨fl, hfl⟩, hd, hg⟩
    rw [← hfl, List.drop_left] at hd hg
    exact ⟨fl, hfl.symm, fun c hc => by rw [hc] at hd; exact hd, fun i hi => by subst hi; simpa using hg⟩
  · rintro ⟨fl, hfl, hd, hg⟩
    rw [hfl, List.drop_left]
    refine ⟨⟨fl, rfl⟩, ?_, ?_⟩
    · cases hh : fl.head? with
      | none => rfl
      | some c => exact hd c hh
    · cases impl with
      | none => rfl
      | some i => simpa using hg i rfl

/-- the inputs of defect D28: `cp31` does not fit the ABI `cp310`, and the free-threaded debug ABI `cp313td`
    fits `cp313` -/
example : abiGate none { impl := "cp", major := "3", minor := "1", abiImpl := "cp310", pyLower := "cp31" } = false := by decide +kernel
example : abiGate none { impl := "cp", major := "3", minor := "13", abiImpl := "cp313td", pyLower := "cp313" } = true := by decide +kernel
example : abiGate none { impl := "pp", major := "3", minor := "2", abiImpl := "pp320", pyLower := "pp32" } = false := by decide +kernel

/-- the interpreter versions the (python tag, abi tag) pair can run on, as a specifier -/
def wheelSpec (t : PyAbi) : Option (Spec Ver) :=
  if t.abiImpl == "abi3" then abi3Range t else wheelRange t

/-- third score component: native 2 > abi3 1 > none 0 -/
def abiRank (t : PyAbi) : Nat :=
  if t.abiImpl == "abi3" then 1 else if t.abiImpl == "none" then 0 else 2

/-- every condition is a Boolean, and with each decided both sides compute to the same term -/
theorem evalPyCore_eq (rp : Spec Ver) (impl : Option Impl) (t : PyAbi) :
    evalPyCore rp impl t =
      if gate impl t then
        match wheelSpec t with
        | none => none
        | some w => if (w.and rp).isEmpty then none else some (pyScore t (abiRank t))
      else none := by
  unfold evalPyCore gate wheelSpec abiRank bne
  cases impl with
  | none =>
    -- no implementation stated: the first test of `_evaluate_python` passes
    cases t.abiImpl == "abi3"
    · -- a concrete ABI or `none`: the `abi_impl != "none" and not …` rejection, else `wheel_range`
      cases t.abiImpl == "none" <;> cases abiGate none t <;> rfl
    · -- `abi3`: only `cp` wheels, then the `>=X.Y` range
      cases t.impl == "cp" <;> rfl
  | some i =>
    simp only []
    cases t.impl == i.short || t.impl == "py"
    · -- another implementation's wheel: rejected at once
      rfl
    · cases t.abiImpl == "abi3"
      · cases t.abiImpl == "none" <;> cases abiGate (some i) t <;> rfl
      · -- `abi3` is also refused by a free-threaded interpreter
        rcases i with ⟨nm, _ | _⟩ <;> cases t.impl == "cp" <;> rfl

theorem evalPyCore_eq_some (rp : Spec Ver) (impl : Option Impl) (t : PyAbi) (s : Nat × Nat × Nat) :
    evalPyCore rp impl t = some s ↔
      gate impl t = true ∧ ∃ w, wheelSpec t = some w ∧ (w.and rp).isEmpty = false ∧ pyScore t (abiRank t) = s := by
  rw [evalPyCore_eq]
  cases gate impl t
  · simp
  · cases wheelSpec t with
    | none => simp
    | some w => cases (w.and rp).isEmpty <;> simp

theorem evalPyCore_iff (rp : Spec Ver) (impl : Option Impl) (t : PyAbi) :
    (evalPyCore rp impl t).isSome = true ↔
      (gate impl t = true ∧ ∃ w, wheelSpec t = some w ∧ (w.and rp).isEmpty = false) := by
  simp only [Option.isSome_iff_exists, evalPyCore_eq_some]
  constructor
  · rintro ⟨_, hg, w, hw, he, _⟩; exact ⟨hg, w, hw, he⟩
  · rintro ⟨hg, w, hw, he⟩; exact ⟨_, hg, w, hw, he, rfl⟩

/-- no false rejection -/
theorem compatible_of_exists (rp : Spec Ver) (impl : Option Impl) (t : PyAbi) (w : Spec Ver)
    (hg : gate impl t = true) (hw : wheelSpec t = some w) (v : Ver) (h1 : w.mem v) (h2 : rp.mem v) :
    (evalPyCore rp impl t).isSome = true := by
  rw [evalPyCore_iff]
  exact ⟨hg, w, hw, Bool.eq_false_iff.2 fun he => C05.isEmpty_sound w rp he ⟨v, h1, h2⟩⟩

/-- no false acceptance, structurally: a compatible wheel has a non-empty intersection; on a dense
    version line that is an actual common version -/
theorem exists_of_compatible {α : Type} [LinPre α] [C05.DenseUnbounded α] (w rp : Spec α)
    (hw : Canon w) (hrp : Canon rp) (h : (w.and rp).isEmpty = false) : ∃ v, w.mem v ∧ rp.mem v :=
  (C05.and_nonempty w rp hw hrp).1 h

/-- the same without density, over cuts (PEP 440 included): an accepted wheel's range and
    requires_python share a position at / just below / just above a bound -/
theorem exists_cut_of_compatible {α : Type} [LinPre α] (a0 : α) (w rp : Spec α)
    (hw : Canon w) (hrp : Canon rp) (h : (w.and rp).isEmpty = false) : ∃ x s, w.memC x s ∧ rp.memC x s :=
  (C05.and_nonempty_cuts a0 w rp hw hrp).1 h

theorem score_shape (rp : Spec Ver) (impl : Option Impl) (t : PyAbi) (s : Nat × Nat × Nat)
    (h : evalPyCore rp impl t = some s) :
    s.1 = (digitsToNat? t.major).getD 0 ∧ s.2.1 = (digitsToNat? t.minor).getD 0 ∧
    s.2.2 = (if t.abiImpl == "abi3" then 1 else if t.abiImpl == "none" then 0 else 2) := by
  obtain ⟨_, _, _, _, rfl⟩ := (evalPyCore_eq_some ..).1 h
  exact ⟨rfl, rfl, rfl⟩

/-- PEP 425's reading of a (python tag, abi tag) pair on a final interpreter version -/
def tagAdmits (t : PyAbi) (v : Ver) : Option Bool :=
  if t.abiImpl == "abi3" then
    (verOf t.major t.minor (some 0)).map fun rel => decide (LinPre.le ({ release := rel } : Ver) v)
  else if !t.major.isEmpty && !t.minor.isEmpty && t.impl == "py" then
    match verOf t.major t.minor none, digitsToNat? t.major with
    | some rel, some M => some (decide (LinPre.le ({ release := rel } : Ver) v) && Pep440.wildMatch { release := [M] } v)
    | _, _ => none
  else if !t.major.isEmpty && !t.minor.isEmpty then
    (verOf t.major t.minor none).map fun rel => Pep440.wildMatch { release := rel } v
  else
    (digitsToNat? t.major).map fun M => Pep440.wildMatch { release := [M] } v

theorem any_and_canon (c : Clause Ver) (s : Spec Ver) (h : fromClause c = some s) : Canon ((Spec.range {}).and s) :=
  and_canon _ _ ⟨rfl, trivial⟩ (fromClause_canon c s h)

/-- three of the four forms of a tag pair denote one clause `c x`, computed from a parsed number or release `x`,
    which PEP 440 reads as `f x` -/
theorem reads_one {β : Type} (X : Option β) (c : β → Clause Ver) (f : β → Bool) (w : Spec Ver) (v : Ver)
    (hf : ∀ x, Pep440.matchesFinal (c x) v = some (f x))
    (h : (X.bind fun x => (fromClause (c x)).map fun a => (Spec.range {}).and a) = some w) :
    Canon w ∧ (v.isFinal = true → ∃ b, X.map f = some b ∧ (b = true ↔ w.mem v)) := by
  simp only [Option.bind_eq_some_iff, Option.map_eq_some_iff] at h
  obtain ⟨x, rfl, a, ha, rfl⟩ := h
  exact ⟨any_and_canon _ a ha, fun hv =>
    ⟨f x, rfl, by rw [Spec.any_and_mem]; exact C04.leaf_exact (c x) v hv a _ ha (hf x)⟩⟩

/-- canonical (whatever `v`), and read as PEP 425 says: one walk of the four forms of a tag pair for both -/
theorem wheelSpec_ok (t : PyAbi) (w : Spec Ver) (h : wheelSpec t = some w) (v : Ver) :
    Canon w ∧ (v.isFinal = true → ∃ b, tagAdmits t v = some b ∧ (b = true ↔ w.mem v)) := by
  unfold wheelSpec at h
  unfold tagAdmits
  by_cases habi : (t.abiImpl == "abi3") = true
  · -- abi3: `>=X.Y`
    rw [if_pos habi] at h ⊢
    exact reads_one _ (fun rel => ⟨.ge, { release := rel }, false⟩) _ w v (fun _ => rfl) h
  rw [if_neg habi] at h ⊢
  unfold wheelRange at h
  by_cases hpy : (!t.major.isEmpty && !t.minor.isEmpty && t.impl == "py") = true
  · -- `pyXY`: `>=X.Y` and `==X.*`
    rw [if_pos hpy] at h ⊢
    cases hrel : verOf t.major t.minor none with
    | none => rw [hrel] at h; cases h
    | some rel =>
      cases hM : digitsToNat? t.major with
      | none => rw [hrel, hM] at h; cases h
      | some M =>
        rw [hrel, hM] at h
        simp only [Option.bind_eq_some_iff, Option.map_eq_some_iff] at h
        obtain ⟨a, ha, b, hb, rfl⟩ := h
        refine ⟨and_canon _ _ (any_and_canon _ a ha) (any_and_canon _ b hb), fun hv => ⟨_, rfl, ?_⟩⟩
        rw [Spec.and_mem, Spec.any_and_mem, Spec.any_and_mem, Bool.and_eq_true,
          C04.leaf_exact ⟨.ge, { release := rel }, false⟩ v hv a _ ha rfl,
          C04.leaf_exact ⟨.eq, { release := [M] }, true⟩ v hv b _ hb rfl]
  rw [if_neg hpy] at h ⊢
  by_cases hmm : (!t.major.isEmpty && !t.minor.isEmpty) = true
  · -- `cpXY`: `==X.Y.*`
    rw [if_pos hmm] at h ⊢
    exact reads_one _ (fun rel => ⟨.eq, { release := rel }, true⟩) _ w v (fun _ => rfl) h
  · -- `pyX`, `cpX`: `==X.*`
    rw [if_neg hmm] at h ⊢
    exact reads_one _ (fun M => ⟨.eq, { release := [M] }, true⟩) _ w v (fun _ => rfl) h

/-- the specifier built for the tag pair admits exactly the final versions PEP 425 says it runs on -/
theorem wheelSpec_reads (t : PyAbi) (w : Spec Ver) (h : wheelSpec t = some w) (v : Ver) (hv : v.isFinal = true) :
    ∃ b, tagAdmits t v = some b ∧ (b = true ↔ w.mem v) :=
  (wheelSpec_ok t w h v).2 hv

/-- non-vacuity: `py36-none` under `>=3.8` is compatible (the input of defect D16) -/
example : evalPyCore (.range { min := some { release := [3, 8] }, incMin := true }) none
    { impl := "py", major := "3", minor := "6", abiImpl := "none", pyLower := "py36" } = some (3, 6, 0) := by
  decide +kernel

end C08

-- the harness registers these two under `C16`; `wheelSpec_canon` is what `evalPy_widen` (C16Widen) needs
namespace C16
open Spec C08

theorem wheelSpec_canon (t : PyAbi) (w : Spec Ver) (h : wheelSpec t = some w) : Canon w :=
  (wheelSpec_ok t w h { release := [] }).1

/-- C08 as an equivalence, for the PEP 440 order itself (no density assumed): with a canonical requires_python a tag pair
    is accepted exactly when the gates pass and its range shares a cut with requires_python.  `a0` is any version:
    C05's cut lemmas want a point -/
theorem evalPyCore_cut_iff (a0 : Ver) (rp : Spec Ver) (hrp : Canon rp) (impl : Option Impl) (t : PyAbi) :
    (evalPyCore rp impl t).isSome = true ↔
      (gate impl t = true ∧ ∃ w, wheelSpec t = some w ∧ ∃ x s, w.memC x s ∧ rp.memC x s) := by
  rw [evalPyCore_iff]
  exact and_congr_right fun _ => exists_congr fun w => and_congr_right fun hw =>
    C05.and_nonempty_cuts a0 w rp (wheelSpec_canon t w hw) hrp

end C16
end DepLogic
