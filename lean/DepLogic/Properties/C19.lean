import DepLogic.Model.Generic
/-
  C19 — String-atom specifier algebra is exact wherever it is defined.
-/
namespace DepLogic
namespace C19

theorem sort2_cases (a b : GSpec) : GSpec.sort2 a b = (a, b) ∨ GSpec.sort2 a b = (b, a) := by
  unfold GSpec.sort2; split
  · exact Or.inr rfl
  · exact Or.inl rfl

/-- what `a & b` / `a | b` answers when it answers `r` (`op` is `&&` / `||`): `r` admits exactly the combination; it
    is an operand, the empty or the universal specifier; and the operands are the same or both among `==`, `!=`,
    `in`, `not in` (no other operator has a row).  The first is C19; the marker layer needs all three. -/
structure Row (sub : String → String → Bool) (op : Bool → Bool → Bool) (a b : GSpec) (r : GRes) : Prop where
  exact : ∀ s, r.containsWith sub s = op (a.containsWith sub s) (b.containsWith sub s)
  basic : a = b ∨ a.op.order < 4 ∧ b.op.order < 4
  answer : r = .empty ∨ r = .any ∨ r = .spec a ∨ r = .spec b

section
variable {sub : String → String → Bool} {op : Bool → Bool → Bool} {a b : GSpec} {r : GRes}

theorem Row.symm (hop : ∀ p q, op p q = op q p) (h : Row sub op a b r) : Row sub op b a r :=
  ⟨fun s => (h.exact s).trans (hop ..), h.basic.imp Eq.symm And.symm, h.answer.imp_right (Or.imp_right Or.symm)⟩

/-- `sorted` of a pair returns it or its swap, and `Row` is symmetric in the operands: so the tables of `__and__` /
    `__or__` are read row by row, once, on the sorted pair, and not over all pairs of operators -/
theorem Row.of_sorted (hop : ∀ p q, op p q = op q p) (hne : a ≠ b)
    (h : ∀ x y, x ≠ y → GSpec.sort2 a b = (x, y) → Row sub op x y r) : Row sub op a b r := by
  rcases sort2_cases a b with e | e
  · exact h a b hne e
  · exact (h b a (Ne.symm hne) e).symm hop

theorem and_row (h : GSpec.andWith sub a b = some r) : Row sub and a b r := by
  unfold GSpec.andWith at h
  by_cases e : a = b
  · rw [if_pos e] at h; cases h; cases e
    exact ⟨fun s => (Bool.and_self _).symm, .inl rfl, .inr (.inr (.inl rfl))⟩
  rw [if_neg e] at h
  refine .of_sorted Bool.and_comm e fun x y hxy hs => ?_
  rw [hs] at h
  rcases x with ⟨ao, av⟩; rcases y with ⟨bo, bv⟩
  simp only at h
  -- one goal per row of the table: the operators are among the first four, the answer is an operand or a constant
  -- (both read off the row), and exactness is a fact about `==`, `!=`, `in`, `not in` on one string
  split at h <;> (try split at h) <;> cases h <;> refine ⟨fun s => ?_, .inr (by simp [GOp.order]), by simp⟩ <;>
    simp_all [GRes.containsWith, GSpec.containsWith] <;> grind

theorem or_row (h : GSpec.orWith sub a b = some r) : Row sub or a b r := by
  unfold GSpec.orWith at h
  by_cases e : a = b
  · rw [if_pos e] at h; cases h; cases e
    exact ⟨fun s => (Bool.or_self _).symm, .inl rfl, .inr (.inr (.inl rfl))⟩
  rw [if_neg e] at h
  refine .of_sorted Bool.or_comm e fun x y hxy hs => ?_
  rw [hs] at h
  rcases x with ⟨ao, av⟩; rcases y with ⟨bo, bv⟩
  simp only at h
  split at h <;> (try split at h) <;> cases h <;> refine ⟨fun s => ?_, .inr (by simp [GOp.order]), by simp⟩ <;>
    simp_all [GRes.containsWith, GSpec.containsWith] <;> grind

end

/-- `a & b` either raises `NotImplementedError` or returns a specifier satisfied by exactly
    the strings satisfying both – for every operator pair, every literal, every candidate,
    and every meaning of `in`. -/
theorem and_exact (sub : String → String → Bool) (a b : GSpec) (r : GRes)
    (h : GSpec.andWith sub a b = some r) (s : String) :
    r.containsWith sub s = (a.containsWith sub s && b.containsWith sub s) :=
  (and_row h).exact s

theorem or_exact (sub : String → String → Bool) (a b : GSpec) (r : GRes)
    (h : GSpec.orWith sub a b = some r) (s : String) :
    r.containsWith sub s = (a.containsWith sub s || b.containsWith sub s) :=
  (or_row h).exact s

theorem dec_le (a b : String) : decide (a ≤ b) = !decide (b < a) := decide_not

/-- `~a` is satisfied exactly by the strings that do not satisfy `a` (all ten operators). -/
theorem invert_exact (sub : String → String → Bool) (a : GSpec) (s : String) :
    a.invert.containsWith sub s = !a.containsWith sub s := by
  rcases a with ⟨ao, av⟩
  cases ao <;> simp [GSpec.invert, GOp.invert, GSpec.containsWith, bne, dec_le] <;> rfl

theorem and_exact' (a b : GSpec) (r : GRes) (h : a.and b = some r) (s : String) :
    r.contains s = (a.contains s && b.contains s) := and_exact strIn a b r h s
theorem or_exact' (a b : GSpec) (r : GRes) (h : a.or b = some r) (s : String) :
    r.contains s = (a.contains s || b.contains s) := or_exact strIn a b r h s

/-! non-vacuity: the table is defined on non-trivial inputs -/
example : (GSpec.mk .eq "linux").and (GSpec.mk .in_ "linux darwin") = some (.spec ⟨.eq, "linux"⟩) := by
  decide
example : (GSpec.mk .ne "a").or (GSpec.mk .notIn "abc") = some (.spec ⟨.ne, "a"⟩) := by decide
example : (GSpec.mk .in_ "ab").and (GSpec.mk .in_ "bc") = none := by decide

end C19
end DepLogic
